/-
  SIM.Lemmas.DeriveDef — the definition part (fields / variants) of `C09.derive_mirrors`, in the form the typing lemmas use.
-/
import SIM.Props.C09
namespace SIM
namespace Derive
open Spec

theorem typeInfo_def (docs : Bool) (d : Decl) (t : Ty TyExpr) (h : Derive.typeInfo docs d = some t) :
    t.def_ = (match d.body with
      | .struct s => .composite (membersExpected cleanTypeString docs d.capture (shapeFields s))
      | .enum vs => .variant (variantsExpected cleanTypeString docs d.capture vs)) := by
  rw [C09.derive_mirrors, deriveExpected] at h
  split at h <;> cases h
  rfl

end Derive
end SIM
