/-
  SIM.Lemmas.Types — `refs`, `map` and `fill` commute: rebuilding a type around the image of its references is mapping
  them (`Ty.fill_map`), mapping maps the references (`Ty.refs_map`), and `fill` does not see what `map` changed
  (`Ty.fill_of_map`).  After these, the graph proofs never look inside a `Ty` again.
-/
import SIM.Model.Types
namespace SIM

variable {R R' R'' : Type}

theorem fillFields_map [Inhabited R'] (fs : List (Field R)) (g : R → R') (rest : List R') :
    fillFields fs ((fieldRefs fs).map g ++ rest) = (fs.map (Field.map g), rest) := by
  induction fs with
  | nil => simp [fillFields, fieldRefs]
  | cons f fs ih =>
    simp only [fieldRefs, List.map_cons, List.cons_append, fillFields, List.tail_cons, List.headD_cons] at ih ⊢
    rw [ih]
    rfl

theorem fieldRefs_map (fs : List (Field R)) (g : R → R') :
    fieldRefs (fs.map (Field.map g)) = (fieldRefs fs).map g := by
  simp [fieldRefs, Field.map, List.map_map, Function.comp_def]

theorem variantRefs_cons (v : Variant R) (vs : List (Variant R)) :
    variantRefs (v :: vs) = fieldRefs v.fields ++ variantRefs vs := by
  simp [variantRefs]

theorem fillVariants_map [Inhabited R'] (vs : List (Variant R)) (g : R → R') (rest : List R') :
    fillVariants vs ((variantRefs vs).map g ++ rest) = (vs.map (Variant.map g), rest) := by
  induction vs with
  | nil => simp [fillVariants, variantRefs]
  | cons v vs ih =>
    simp only [variantRefs_cons, List.map_append, List.append_assoc, fillVariants, fillFields_map, ih]
    rfl

theorem variantRefs_map (vs : List (Variant R)) (g : R → R') :
    variantRefs (vs.map (Variant.map g)) = (variantRefs vs).map g := by
  simp only [variantRefs, List.flatMap_map, List.map_flatMap, Variant.map, fieldRefs_map]

theorem paramRefs_cons_none (n : Str) (ps : List (TypeParam R)) :
    paramRefs ({ name := n, ty := none } :: ps) = paramRefs ps := by
  simp [paramRefs]

theorem paramRefs_cons_some (n : Str) (t : R) (ps : List (TypeParam R)) :
    paramRefs ({ name := n, ty := some t } :: ps) = t :: paramRefs ps := by
  simp [paramRefs]

theorem fillParams_map [Inhabited R'] (ps : List (TypeParam R)) (g : R → R') (rest : List R') :
    fillParams ps ((paramRefs ps).map g ++ rest) = (ps.map (TypeParam.map g), rest) := by
  induction ps with
  | nil => simp [fillParams, paramRefs]
  | cons p ps ih =>
    obtain ⟨name, ty⟩ := p
    cases ty with
    | none =>
      rw [paramRefs_cons_none]
      simp only [fillParams, ih]
      rfl
    | some t =>
      rw [paramRefs_cons_some]
      simp only [fillParams, List.map_cons, List.cons_append, List.tail_cons, List.headD_cons, ih]
      rfl

theorem paramRefs_map (ps : List (TypeParam R)) (g : R → R') :
    paramRefs (ps.map (TypeParam.map g)) = (paramRefs ps).map g := by
  simp only [paramRefs, List.filterMap_map, List.map_filterMap]
  rfl

theorem TypeDef.fill_map [Inhabited R'] (d : TypeDef R) (g : R → R') : d.fill (d.refs.map g) = d.map g := by
  have hf := fun fs => List.append_nil _ ▸ fillFields_map fs g []
  have hv := fun vs => List.append_nil _ ▸ fillVariants_map vs g []
  have ht := fun ts : List R => List.take_of_length_le (Nat.le_of_eq (List.length_map (as := ts) g))
  cases d <;> simp [TypeDef.fill, TypeDef.refs, TypeDef.map, hf, hv, ht]

theorem TypeDef.refs_map (d : TypeDef R) (g : R → R') : (d.map g).refs = d.refs.map g := by
  cases d <;> simp [TypeDef.refs, TypeDef.map, fieldRefs_map, variantRefs_map]

theorem Ty.fill_map [Inhabited R'] (t : Ty R) (g : R → R') : t.fill (t.refs.map g) = t.map g := by
  simp only [Ty.fill, Ty.refs, List.map_append, fillParams_map, TypeDef.fill_map, Ty.map]

theorem Ty.refs_map (t : Ty R) (g : R → R') : (t.map g).refs = t.refs.map g := by
  simp [Ty.refs, Ty.map, paramRefs_map, TypeDef.refs_map]

theorem Ty.map_congr (t : Ty R) (g g' : R → Nat) (h : ∀ c ∈ t.refs, g c = g' c) : t.map g = t.map g' := by
  rw [← Ty.fill_map, ← Ty.fill_map, List.map_congr_left h]

theorem fillFields_of_map [Inhabited R''] (g : R → R') : ∀ (fs : List (Field R)) (rs : List R''),
    fillFields (fs.map (Field.map g)) rs = fillFields fs rs
  | [], _ => rfl
  | f :: fs, rs => by simp only [List.map_cons, fillFields, fillFields_of_map g fs]; rfl

theorem fillVariants_of_map [Inhabited R''] (g : R → R') : ∀ (vs : List (Variant R)) (rs : List R''),
    fillVariants (vs.map (Variant.map g)) rs = fillVariants vs rs
  | [], _ => rfl
  | v :: vs, rs => by
    simp only [List.map_cons, fillVariants, Variant.map, fillFields_of_map, fillVariants_of_map g vs]

theorem fillParams_of_map [Inhabited R''] (g : R → R') : ∀ (ps : List (TypeParam R)) (rs : List R''),
    fillParams (ps.map (TypeParam.map g)) rs = fillParams ps rs
  | [], _ => rfl
  | ⟨_, none⟩ :: ps, rs | ⟨_, some _⟩ :: ps, rs => by
    simp only [List.map_cons, fillParams, TypeParam.map, fillParams_of_map g ps]; rfl

theorem TypeDef.fill_of_map [Inhabited R''] (g : R → R') (d : TypeDef R) (rs : List R'') :
    (d.map g).fill rs = d.fill rs := by
  cases d <;> simp [TypeDef.fill, TypeDef.map, fillFields_of_map, fillVariants_of_map]

theorem Ty.fill_of_map [Inhabited R''] (g : R → R') (t : Ty R) (rs : List R'') : (t.map g).fill rs = t.fill rs := by
  simp only [Ty.fill, Ty.map, fillParams_of_map, TypeDef.fill_of_map]

theorem Reg.Field.map_comp {A B C : Type} (g : A → B) (h : B → C) (f : Field A) :
    (f.map g).map h = f.map (fun x => h (g x)) := rfl

theorem Ty.map_comp [Inhabited R''] (g : R → R') (h : R' → R'') (t : Ty R) :
    (t.map g).map h = t.map (fun x => h (g x)) := by
  rw [← Ty.fill_map (t.map g), Ty.refs_map, List.map_map, Ty.fill_of_map, ← Ty.fill_map t]; rfl

theorem Ty.map_id (t : Ty R) : t.map (fun x => x) = t := by
  have hf : ∀ fs : List (Field R), fs.map (Field.map fun x => x) = fs := fun fs => List.map_id'' (fun _ => rfl) fs
  have hv : ∀ vs : List (Variant R), vs.map (Variant.map fun x => x) = vs :=
    fun vs => List.map_id'' (fun v => by rw [Variant.map, hf]) vs
  have hp : ∀ ps : List (TypeParam R), ps.map (TypeParam.map fun x => x) = ps :=
    fun ps => List.map_id'' (fun p => by rw [TypeParam.map, Option.map_id']) ps
  obtain ⟨path, params, d, docs⟩ := t
  cases d <;> simp only [Ty.map, TypeDef.map, hf, hv, hp, List.map_id']

end SIM
