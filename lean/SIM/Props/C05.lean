/-
  C05 — one entry per type identity: registering an interned identity again changes nothing, the
  interned identities are exactly those reachable from the registered roots, each is evaluated
  exactly once and has exactly one id.
-/
import SIM.Lemmas.Registry
namespace SIM
namespace C05
open Reg

theorem register_idempotent (env : Nat → Ty Nat) (fuel : Nat) (s : RegState) (t : Nat) (hinv : s.table.Inv)
    (ht : t ∈ s.table.vec) : Registry.registerType env (fuel + 1) s t = some (s, idOf s t) :=
  registerType_unfold_old env fuel hinv ht

theorem interned_eq_reachable (env : Nat → Ty Nat) (fuel : Nat) (ops : List Registry.Op) (s : RegState)
    (outs : List Registry.Out) (h : Registry.run env fuel Registry.empty ops = some (s, outs)) (x : Nat) :
    x ∈ s.table.vec ↔ Reach env (histRoots ops) x := by
  obtain ⟨-, hP, hr, -⟩ := run_post I_empty h
  exact ⟨fun hx => (hP.reach x hx).resolve_left List.not_mem_nil,
    (run_complete (Complete.empty env) h).closed hr⟩

theorem one_entry_per_identity (env : Nat → Ty Nat) (fuel : Nat) (ops : List Registry.Op) (s : RegState)
    (outs : List Registry.Out) (h : Registry.run env fuel Registry.empty ops = some (s, outs)) :
    s.table.vec.Nodup ∧ (Registry.toPortable s).length = s.table.vec.length := by
  have hc := run_complete (Complete.empty env) h
  exact ⟨hc.inv.nodup, hc.portable_length⟩

/-- `evals` logs every consultation of a `type_info()` -/
theorem eval_once (env : Nat → Ty Nat) (fuel : Nat) (ops : List Registry.Op) (s : RegState)
    (outs : List Registry.Out) (h : Registry.run env fuel Registry.empty ops = some (s, outs)) (t : Nat) :
    s.evals.count t ≤ 1 ∧ (s.evals.count t = 1 ↔ Reach env (histRoots ops) t) := by
  have hc := run_complete (Complete.empty env) h
  rw [← interned_eq_reachable env fuel ops s outs h t, hc.inv.evals, hc.inv.nodup.count]
  by_cases hm : t ∈ s.table.vec <;> simp [hm]

/-- ids are positions in the interner's list, so this holds of any state: the run `h` is not used -/
theorem distinct_ids (env : Nat → Ty Nat) (fuel : Nat) (ops : List Registry.Op) (s : RegState)
    (outs : List Registry.Out) (h : Registry.run env fuel Registry.empty ops = some (s, outs))
    (t t' : Nat) (ht : t ∈ s.table.vec) (ht' : t' ∈ s.table.vec) (hne : t ≠ t') : idOf s t ≠ idOf s t' :=
  fun he => hne (idxOf_inj ht ht' he)

end C05
end SIM
