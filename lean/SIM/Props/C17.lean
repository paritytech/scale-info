/-
  C17 — the builders are lossless: the interpreter of builder-call sequences `Build.run` (transcription of src/build.rs)
  equals the declarative description `Spec.buildExpected`: every member is the argument of the last call that sets it, fields
  and variants come out in the order supplied, PhantomData members are dropped (MetaForm only), and `docs(..)` counts only
  with the docs feature.
-/
import SIM.Lemmas.Build
namespace SIM
namespace C17
open Build Spec

theorem field_lossless {R} (cfg : Cfg) (calls : List (FCall R)) : fieldOf cfg calls = fieldExpected cfg calls := by
  simp only [fieldOf, fieldExpected, FB.fold_ty, FB.fold_name, FB.fold_typeName, FB.fold_docs, Option.or_none]
  cases lastSome fTyArg calls <;> rfl

theorem fields_lossless {R} (cfg : Cfg) (isPhantom : R → Bool) (fbs : List (List (FCall R))) :
    fieldsOf cfg isPhantom fbs = fieldsExpected cfg isPhantom fbs := by
  have hf : fieldOf (R := R) cfg = fieldExpected cfg := funext (field_lossless cfg)
  rw [fieldsOf_eq_mapM, fieldsExpected, hf]
  cases List.mapM (fieldExpected cfg) fbs <;> rfl

theorem variant_lossless {R} (cfg : Cfg) (isPhantom : R → Bool) (name : Str) (calls : List (VCall R)) :
    variantOf cfg isPhantom name calls = variantExpected cfg isPhantom name calls := by
  simp only [variantOf, variantExpected, VB.fold_index, VB.fold_fields, VB.fold_docs, Option.or_none,
    fields_lossless]
  cases lastSome vIndexArg calls with
  | none => rfl
  | some i =>
    cases lastSome vFieldsArg calls with
    | none => rfl
    | some fbs => cases h : fieldsExpected cfg isPhantom fbs <;> simp [h]

theorem build_lossless {R} (cfg : Cfg) (isPhantom : R → Bool) (calls : List (TCall R)) (term : Term R) :
    Build.run cfg isPhantom calls term = buildExpected cfg isPhantom calls term := by
  have hv : (fun nc : Str × List (VCall R) => variantOf cfg isPhantom nc.1 nc.2) =
      fun nc => variantExpected cfg isPhantom nc.1 nc.2 := funext fun nc => variant_lossless cfg isPhantom nc.1 nc.2
  simp only [Build.run, buildExpected, TB.fold_path, TB.fold_params, TB.fold_docs, Option.or_none]
  cases lastSome tPathArg calls with
  | none => rfl
  | some p =>
    cases term with
    | composite fbs =>
      simp only [defExpected, fields_lossless]
      cases fieldsExpected cfg isPhantom fbs <;> rfl
    | variant vs =>
      simp only [defExpected, variantsOf_eq_mapM, hv]
      cases List.mapM (fun nc : Str × List (VCall R) => variantExpected cfg isPhantom nc.1 nc.2) vs <;> rfl

theorem fields_no_phantom {R} {cfg : Cfg} {isPhantom : R → Bool} {fbs : List (List (FCall R))} {fs : List (Field R)}
    (h : fieldsOf cfg isPhantom fbs = some fs) : ∀ f ∈ fs, isPhantom f.ty = false := by
  rw [fieldsOf_eq_mapM, Option.map_eq_some_iff] at h
  obtain ⟨all, -, rfl⟩ := h
  exact fun f hf => by simpa using (List.mem_filter.1 hf).2

theorem variant_no_phantom {R} {cfg : Cfg} {isPhantom : R → Bool} {name : Str} {calls : List (VCall R)} {v : Variant R}
    (h : variantOf cfg isPhantom name calls = some v) : ∀ f ∈ v.fields, isPhantom f.ty = false := by
  have hv : (calls.foldl (VB.step cfg isPhantom) {}).fields = some v.fields := by
    simp only [variantOf] at h
    split at h <;> cases h
    assumption
  rw [VB.fold_fields] at hv
  split at hv
  · rw [← Option.some.inj hv]
    exact fun _ hf => nomatch hf
  · exact fields_no_phantom hv

theorem phantom_never_listed {R} (cfg : Cfg) (isPhantom : R → Bool) (calls : List (TCall R)) (term : Term R) (t : Ty R)
    (h : Build.run cfg isPhantom calls term = some t) : ∀ r ∈ t.def_.refs, isPhantom r = false := by
  intro r hr
  simp only [Build.run] at h
  split at h
  · cases h
  split at h
  · -- `composite`
    split at h <;> cases h
    next fs hb =>
      obtain ⟨f, hf, rfl⟩ := List.mem_map.1 hr
      exact fields_no_phantom hb f hf
  · -- `variant`
    split at h <;> cases h
    next vs' hb =>
      obtain ⟨v, hv, hr⟩ := List.mem_flatMap.1 hr
      obtain ⟨f, hf, rfl⟩ := List.mem_map.1 hr
      rw [variantsOf_eq_mapM] at hb
      exact mapM_some_forall (fun _ _ => variant_no_phantom) hb v hv f hf

theorem tuple_new_spec {R} (isPhantom : R → Bool) (ts : List R) :
    (tupleNew isPhantom ts).refs = ts.filter (fun t => !isPhantom t) ∧
    (∀ r ∈ (tupleNew isPhantom ts).refs, isPhantom r = false) ∧ (tupleNew isPhantom ts).refs.Sublist ts := by
  refine ⟨rfl, ?_, ?_⟩
  · intro r hr
    simpa using (List.mem_filter.mp hr).2
  · exact List.filter_sublist

/-- the PortableForm builders: `isPhantom` is constantly false -/
theorem portable_keeps_all {R} (cfg : Cfg) (fbs : List (List (FCall R))) :
    fieldsOf cfg (fun _ => false) fbs = fbs.mapM (fieldOf cfg) := by
  rw [fieldsOf_eq_mapM]
  cases List.mapM (fieldOf cfg) fbs <;> simp

theorem fields_order {R} (cfg : Cfg) (isPhantom : R → Bool) (fbs : List (List (FCall R))) (fs : List (Field R))
    (h : fieldsOf cfg isPhantom fbs = some fs) :
    ∃ all, fbs.mapM (fieldOf cfg) = some all ∧ fs = all.filter (fun f => !isPhantom f.ty) ∧ fs.Sublist all := by
  rw [fieldsOf_eq_mapM, Option.map_eq_some_iff] at h
  obtain ⟨all, hm, rfl⟩ := h
  exact ⟨all, hm, rfl, List.filter_sublist⟩

theorem docs_gating (cur l : List Str) :
    applyDocs { docs := false } cur (.docs l) = cur ∧ applyDocs { docs := true } cur (.docs l) = l ∧
    applyDocs { docs := false } cur (.docsAlways l) = l ∧ applyDocs { docs := true } cur (.docsAlways l) = l :=
  ⟨rfl, rfl, rfl, rfl⟩

theorem docs_feature_off_erases {R} (isPhantom : R → Bool) (calls : List (TCall R)) (term : Term R) (t : Ty R)
    (h : Build.run { docs := false } isPhantom calls term = some t) :
    t.docs = (lastSome (fun c => match c with
      | TCall.free (.docsAlways l) => some l | TCall.free (.docsPortable l) => some l | _ => none) calls).getD [] := by
  have hsel : (fun c : TCall R => match c with
      | TCall.free (.docsAlways l) => some l | TCall.free (.docsPortable l) => some l | _ => none) =
      tDocsArg { docs := false } := by
    funext c
    rcases c with p | ps | f
    · rfl
    · rfl
    · cases f <;> rfl
  rw [hsel]
  rw [build_lossless, buildExpected] at h
  split at h <;> cases h
  rfl

/-- `From<TypeDef…> for Type` adds nothing -/
theorem ofDef_spec {R} (d : TypeDef R) : (ofDef d).path = [] ∧ (ofDef d).params = [] ∧ (ofDef d).def_ = d ∧ (ofDef d).docs = [] :=
  ⟨rfl, rfl, rfl, rfl⟩

/-- named composite, three field builders, the middle one PhantomData; `docs` then `docsAlways` on the type -/
example :
    Build.run { docs := true } (· == 8)
      [.path [[97]], .free (.docs [[100]]), .free (.docsAlways [[101]])]
      (.composite [[.name [120], .ty 1, .free (.docs [[102]])], [.name [121], .ty 8], [.name [122], .ty 2, .free (.typeName [116])]])
    = some { path := [[97]], params := [],
             def_ := .composite [{ name := some [120], ty := 1, typeName := none, docs := [[102]] },
                                 { name := some [122], ty := 2, typeName := some [116], docs := [] }],
             docs := [[101]] } := by decide

/-- the same program without the docs feature -/
example :
    Build.run { docs := false } (· == 8)
      [.path [[97]], .free (.docs [[100]]), .free (.docsAlways [[101]])]
      (.composite [[.name [120], .ty 1, .free (.docs [[102]])], [.name [121], .ty 8], [.name [122], .ty 2, .free (.typeName [116])]])
    = some { path := [[97]], params := [],
             def_ := .composite [{ name := some [120], ty := 1, typeName := none, docs := [] },
                                 { name := some [122], ty := 2, typeName := some [116], docs := [] }],
             docs := [[101]] } := by decide

/-- `docsAlways` then `docs`: without the feature the later call is a no-op -/
example :
    Build.run { docs := false } (· == 8)
      [.path [[97]], .free (.docsAlways [[101]]), .free (.docs [[100]])]
      (.composite [[.name [120], .ty 1, .free (.docs [[102]])], [.name [121], .ty 8], [.name [122], .ty 2]])
    = some { path := [[97]], params := [],
             def_ := .composite [{ name := some [120], ty := 1, typeName := none, docs := [] },
                                 { name := some [122], ty := 2, typeName := none, docs := [] }],
             docs := [[101]] } := by decide

/-- with it the later call wins -/
example :
    (Build.run { docs := true } (· == 8)
      [.path [[97]], .free (.docsAlways [[101]]), .free (.docs [[100]])]
      (.composite [[.name [120], .ty 1], [.name [121], .ty 8], [.name [122], .ty 2]])).map (·.docs)
    = some [[100]] := by decide

/-- `fields` set twice: the last wins -/
example :
    Build.run { docs := true } (· == 8)
      [.path [[97]]]
      (.variant [([65], [.fields [[.ty 1]], .index 3, .fields [[.ty 2], [.ty 8], [.ty 4]]])])
    = some { path := [[97]], params := [],
             def_ := .variant [{ name := [65], index := 3, docs := [],
                                 fields := [{ name := none, ty := 2, typeName := none, docs := [] },
                                            { name := none, ty := 4, typeName := none, docs := [] }] }],
             docs := [] } := by decide

/-- a variant without an index: panic in `finalize` -/
example : Build.run (R := Nat) { docs := true } (· == 8) [.path [[97]]] (.variant [([65], [])]) = none := by decide

end C17
end SIM
