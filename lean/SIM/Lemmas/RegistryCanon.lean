/-
  SIM.Lemmas.RegistryCanon — a registry produced by `Registry.registerType` is already in the numbering `Retain.retain` gives
  it.  `retain` being registration of the registry's own graph, the claim is about registration alone: it commutes with an
  injective renaming of the identities (`registerType_rename`); a finished run renamed by its own `idOf fin` interns
  `0, 1, 2, …` in this order; and any run is the run over the identities it interns, in that order (`travList_interned`).
-/
import SIM.Lemmas.Retain
namespace SIM
namespace RegCanon
open Registry Reg

theorem enter_vec (s : RegState) (tid : Nat) : (Reg.enter s tid).table.vec = s.table.vec ++ [tid] := rfl

/-- `s2` is `s` with every identity renamed by `g` (ids, being positions, are unchanged) -/
structure Ren (g : Nat → Nat) (D : Nat → Prop) (s s2 : RegState) : Prop where
  inv : I s
  inv2 : I s2
  dom : ∀ x ∈ s.table.vec, D x
  vec : s2.table.vec = s.table.vec.map g
  types : s2.types = s.types

theorem registerType_rename {g : Nat → Nat} {D : Nat → Prop} {env env' : Nat → Ty Nat}
    (hg : ∀ a b, D a → D b → g a = g b → a = b) (hE : ∀ a, D a → env' (g a) = (env a).map g)
    (hD : ∀ a, D a → ∀ c ∈ (env a).refs, D c) :
    ∀ fuel s s2 t s' n, Ren g D s s2 → D t → registerType env fuel s t = some (s', n) →
      ∃ s2', registerType env' fuel s2 (g t) = some (s2', n) ∧ Ren g D s' s2'
  | 0, _, _, _, _, _, _, _, h => by simp [registerType] at h
  | fuel + 1, s, s2, t, s', n, hR, ht, h => by
    obtain ⟨hI', -, -, -⟩ := registerType_post _ _ hR.inv h
    have hinj : ∀ a ∈ s.table.vec, g a = g t → a = t := fun a ha e => hg a t (hR.dom a ha) ht e
    rcases (registerType_eq_some hR.inv.inv).1 h with ⟨hm, rfl, rfl⟩ | ⟨hm, s1, rs, htl, rfl, rfl⟩
    · refine ⟨s2, ?_, hR⟩
      rw [registerType_unfold_old _ fuel hR.inv2.inv (by rw [hR.vec]; exact List.mem_map_of_mem hm), hR.vec,
        idxOf_map_inj hinj, idOf]
    · have hm2 : g t ∉ s2.table.vec := by
        rw [hR.vec, List.mem_map]
        rintro ⟨a, ha, e⟩
        exact hm (hinj a ha e ▸ ha)
      obtain ⟨s1', htl', hR1⟩ := travList_rel (t := enter s2 (g t)) (registerType_rename hg hE hD fuel)
        ⟨I_enter hR.inv hm, I_enter hR.inv2 hm2, List.forall_mem_append.2 ⟨hR.dom, List.forall_mem_singleton.2 ht⟩,
          by simp [enter, hR.vec], hR.types⟩
        (hD t ht) htl
      rw [← Ty.refs_map, ← hE t ht] at htl'
      have e2 := (registerType_eq_some hR.inv2.inv).2 (Or.inr ⟨hm2, s1', rs, htl', rfl, rfl⟩)
      rw [hE t ht, Ty.fill_of_map, hR.vec, List.length_map, hR1.types] at e2
      exact ⟨_, e2, hI', (registerType_post _ _ hR.inv2 e2).1, hR1.dom, hR1.vec, rfl⟩

theorem travList_interned {env : Nat → Ty Nat} {fuel : Nat} :
    ∀ {roots : List Nat} {s fin : RegState} {ns : List Nat}, I s →
      travList (registerType env fuel) s roots = some (fin, ns) →
      ∃ ns', travList (registerType env fuel) s (fin.table.vec.drop s.table.vec.length) = some (fin, ns')
  | [], s, fin, ns, _, h => by
    obtain ⟨rfl, -⟩ := travList_nil_eq_some.1 h
    exact ⟨[], by rw [List.drop_length]; rfl⟩
  | r :: roots, s, fin, ns, hI, h => by
    obtain ⟨s1, n1, ns', h1, hrest, -⟩ := travList_cons_eq_some.1 h
    obtain ⟨hI1, hP1, -, -⟩ := registerType_post env fuel hI h1
    obtain ⟨-, hPr, -, -⟩ := registerTypes_post hI1 hrest
    obtain ⟨ns2, h2⟩ := travList_interned hI1 hrest
    -- the identities interned by the first call, then those interned by the rest
    obtain ⟨t, ht⟩ := hPr.pre
    rw [← ht, List.drop_append_of_le_length hP1.pre.length_le, ← List.drop_left (l₁ := s1.table.vec) (l₂ := t), ht]
    suffices ∃ ns1, travList (registerType env fuel) s (s1.table.vec.drop s.table.vec.length) = some (s1, ns1) by
      obtain ⟨ns1, h1'⟩ := this
      exact ⟨ns1 ++ ns2, travList_append_eq_some.2 ⟨_, _, _, h1', h2, rfl⟩⟩
    cases fuel with
    | zero => simp [registerType] at h1
    | succ fuel =>
      rcases (registerType_eq_some hI.inv).1 h1 with ⟨hm, rfl, rfl⟩ | ⟨hm, s1', rs, htl, e, rfl⟩
      · exact ⟨[], by rw [List.drop_length]; rfl⟩
      · obtain ⟨-, hP, -, -⟩ := registerTypes_post (I_enter hI hm) htl
        -- `r` is interned next: the call interns `r :: u`, and when it returns the `u` are memo hits
        obtain ⟨u, hu⟩ := hP.pre
        rw [show s1'.table.vec = s1.table.vec from e ▸ rfl, enter_vec, List.append_assoc] at hu
        have hold := travList_old env fuel hI1.inv u fun x hx => hu ▸ List.mem_append_right _ (List.mem_cons_of_mem _ hx)
        refine ⟨s.table.vec.length :: u.map (idOf s1), ?_⟩
        rw [← hu, List.drop_left]
        exact travList_cons_eq_some.2 ⟨_, _, _, h1, hold, rfl⟩

theorem lookup_idmap {n i : Nat} (h : i < n) :
    Retain.lookup ((List.range n).map (fun i => (i, i))) i = some i := by
  have := List.nodup_range.idxOf_getElem i (by simpa using h)
  rw [List.getElem_range] at this
  rw [← zipIdx_range, Retain.lookup_zipIdx, if_pos (List.mem_range.2 h), this]; rfl

theorem registry_canon_core {env : Nat → Ty Nat} {fuel : Nat} {roots : List Nat} {fin : RegState} {ns : List Nat}
    (htrav : travList (registerType env fuel) Registry.empty roots = some (fin, ns)) :
    Retain.retain (toPortable fin) (fun _ => true) =
      some (toPortable fin, (List.range (toPortable fin).length).map (fun i => (i, i))) := by
  obtain ⟨hI, hP, hroots, _⟩ := registerTypes_post I_empty htrav
  have hc := (Complete.empty env).post hI hP
  obtain ⟨s2, ids, h2, -, -, hret⟩ := Retain.retain_eq_register hc.wf (fun _ => true)
  -- the run, renamed by `idOf fin`, is a run on the graph of `toPortable fin` that interns `0, 1, …` in order
  obtain ⟨fin2, h2', hR⟩ := travList_rel (t := Registry.empty)
    (registerType_rename (D := (· ∈ fin.table.vec)) (env' := Retain.graph (toPortable fin))
      (fun a b ha hb e => idxOf_inj ha hb e)
      (fun a ha => Retain.graph_of_getElem? (hc.portable_getElem? (hc.entry ha).1))
      (fun a ha => (hc.entry ha).2) fuel)
    ⟨I_empty, I_empty, by simp [Registry.empty, Interner.empty], rfl, rfl⟩ hroots htrav
  have hv2 : fin2.table.vec = List.range (toPortable fin).length := by
    rw [hR.vec, hc.portable_length]; exact map_idxOf_self hc.inv.nodup
  -- that run is the run over `0, 1, …`, which is the loop of `retain`
  obtain ⟨ns', h3⟩ : ∃ ns', travList _ Registry.empty fin2.table.vec = some (fin2, ns') :=
    travList_interned I_empty h2'
  rw [hv2] at h3
  rw [List.filter_eq_self.2 (fun _ _ => rfl)] at h2
  cases travList_fuel_unique h2 h3
  rw [hret, hv2, zipIdx_range]
  simp only [toPortable, hR.types]

end RegCanon
end SIM
