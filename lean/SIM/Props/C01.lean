/-
  C01 — every registry the library produces is well formed: entry `i` carries id `i` (dense) and every reference is
  below the length (closed). `Registry` histories, `PortableRegistryBuilder`, the SCALE round trip; `retain`: `C10.retain_wf`.
-/
import SIM.Lemmas.Registry
import SIM.Props.C07
namespace SIM
namespace C01
open Reg

/-- `ops`: any history of `register_type` / `register_types` / `map_into_portable` -/
theorem run_wf (env : Nat → Ty Nat) (fuel : Nat) (ops : List Registry.Op) (s : RegState) (outs : List Registry.Out)
    (h : Registry.run env fuel Registry.empty ops = some (s, outs)) : WF (Registry.toPortable s) :=
  (run_complete (Complete.empty env) h).wf

theorem resolve_dense (r : PortableRegistry) (h : WF r) (i : Nat) (t : Ty Nat) :
    resolve r i = some t ↔ ∃ e ∈ r, e.id = i ∧ e.ty = t := by
  simp only [resolve, Option.map_eq_some_iff]
  constructor
  · rintro ⟨e, he, rfl⟩
    obtain ⟨hi, rfl⟩ := List.getElem?_eq_some_iff.1 he
    exact ⟨r[i], List.getElem_mem hi, (h i hi).1, rfl⟩
  · rintro ⟨e, he, rfl, rfl⟩
    obtain ⟨j, hj, rfl⟩ := List.getElem_of_mem he
    rw [(h j hj).1]
    exact ⟨r[j], List.getElem?_eq_getElem hj, rfl⟩

theorem builder_finish_dense (b : Builder) (i : Nat) (h : i < b.finish.length) : (b.finish[i]).id = i := by
  obtain ⟨t, _, e⟩ := b.finish_getElem h
  rw [e]

/-- the builder does not look inside the types it is given, so closure is the caller's obligation `h` -/
theorem builder_finish_wf (b : Builder) (h : ∀ t ∈ b.types.vec, ∀ x ∈ t.refs, x < b.types.vec.length) :
    WF b.finish := by
  intro i hi
  obtain ⟨t, ht, e⟩ := b.finish_getElem hi
  rw [e, b.finish_length]
  exact ⟨rfl, h t ht⟩

theorem decode_encode_wf (r : PortableRegistry) (hb : Codec.Bounded r) (hw : WF r) :
    ∃ r', Codec.decode (Codec.encode r) = some (r', []) ∧ WF r' :=
  ⟨r, C07.decode_encode_exact r hb, hw⟩

/-- three mutually recursive types, `#2` referenced first through a type parameter:
    `0 = struct<T = #2> { f : #1 }`, `1 = enum { V(#2, #0) }`, `2 = [#0; 4]` -/
def env3 : Nat → Ty Nat
  | 0 => { path := [[65]], params := [{ name := [84], ty := some 2 }],
           def_ := .composite [{ name := some [102], ty := 1, typeName := none, docs := [] }], docs := [] }
  | 1 => { path := [[66]], params := [],
           def_ := .variant [{ name := [86], fields := [{ name := none, ty := 2, typeName := none, docs := [] },
                                                         { name := none, ty := 0, typeName := none, docs := [] }],
                               index := 0, docs := [] }], docs := [] }
  | _ => { path := [], params := [], def_ := .array 4 0, docs := [] }

/-- `register_type(#0)`: `#0 ↦ 0`, `#2 ↦ 1` (type parameters first), `#1 ↦ 2` -/
def expected3 : PortableRegistry :=
  [ { id := 0,
      ty := { path := [[65]], params := [{ name := [84], ty := some 1 }],
              def_ := .composite [{ name := some [102], ty := 2, typeName := none, docs := [] }], docs := [] } },
    { id := 1, ty := { path := [], params := [], def_ := .array 4 0, docs := [] } },
    { id := 2,
      ty := { path := [[66]], params := [],
              def_ := .variant [{ name := [86], fields := [{ name := none, ty := 1, typeName := none, docs := [] },
                                                            { name := none, ty := 0, typeName := none, docs := [] }],
                                  index := 0, docs := [] }], docs := [] } } ]

example :
    (Registry.run env3 4 Registry.empty [.reg 0]).map (fun r => (Registry.toPortable r.1, r.1.table.vec, r.2)) =
      some (expected3, [0, 2, 1], [.id 0]) := by
  decide +kernel

example : WF expected3 := by
  obtain ⟨r, hr, he⟩ := Option.map_eq_some_iff.1 (show (Registry.run env3 4 Registry.empty [.reg 0]).map
    (fun r => Registry.toPortable r.1) = some expected3 by decide +kernel)
  exact he ▸ run_wf env3 4 [.reg 0] r.1 r.2 hr

end C01
end SIM
