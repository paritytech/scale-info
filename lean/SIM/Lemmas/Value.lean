/-
  SIM.Lemmas.Value — the schema-directed decoder `decodeVal` inverts the SCALE encoder `encode` on well-typed values:
  leaf round trips (two's complement, big compact integers, bit sequences), fuel monotonicity, and the main induction on
  the typing derivation, where each rule of `Spec.HasTy` is a `Node` of the decoder.
-/
import SIM.Model.Value
import SIM.Spec.Typing
import SIM.Lemmas.Codec
import SIM.Lemmas.Decode
namespace SIM
namespace Value
open Codec Spec

theorem pow256 (k : Nat) : 256 ^ k = 2 ^ (8 * k) := by
  rw [Nat.pow_mul]

/-- a width of whole bytes -/
theorem pow256_div {w : Nat} (h : w = 8 * (w / 8)) : 256 ^ (w / 8) = 2 ^ w := by
  rw [pow256, ← h]

/-- for `omega`, which reads the cast of a power as a power of the cast and so as an atom of its own -/
theorem cast_two_pow (b : Nat) : ((2 ^ b : Nat) : Int) = 2 ^ b := by simp

theorem twos_lt (bits : Nat) (z : Int) : twos bits z < 2 ^ bits := by
  have := cast_two_pow bits
  unfold twos
  omega

theorem ofTwos_twos (bits : Nat) (z : Int) (hb : 0 < bits)
    (hlo : -(2 ^ (bits - 1) : Int) ≤ z) (hhi : z < (2 ^ (bits - 1) : Int)) :
    ofTwos bits (twos bits z) = z := by
  obtain ⟨b, rfl⟩ : ∃ b, bits = b + 1 := ⟨bits - 1, by omega⟩
  have hc := cast_two_pow b
  have hp : (0 : Int) < 2 ^ b := Int.pow_pos (by decide)
  rw [ofTwos, twos, Nat.add_sub_cancel, Int.pow_succ] at *
  -- the residue of `z` is `z` itself, below half, or `z + 2 ^ bits`, not below half
  by_cases hz : 0 ≤ z
  · rw [Int.emod_eq_of_lt hz (by omega), if_pos (by omega)]; omega
  · rw [← Int.add_emod_right, Int.emod_eq_of_lt (by omega) (by omega), if_neg (by omega)]; omega

theorem leLen_le_iff : ∀ (f n k : Nat), n < 256 ^ f → (leLen f n ≤ k ↔ n < 256 ^ k)
  | 0, n, k, h => by
    have : 0 < 256 ^ k := Nat.pow_pos (by decide)
    simp only [leLen, Nat.zero_le, true_iff]; omega
  | f + 1, n, k, h => by
    have hk : 0 < 256 ^ k := Nat.pow_pos (by decide)
    rw [leLen]
    split
    · omega
    · cases k with
      | zero => omega
      | succ k =>
        rw [Nat.pow_succ] at h ⊢
        rw [Nat.add_comm 1, Nat.succ_le_succ_iff, leLen_le_iff f (n / 256) k (by omega), Nat.div_lt_iff_lt_mul (by decide)]

/-- big-integer mode answers only from `2 ^ 30` on -/
theorem decCompactBig_of_small {bs : Bytes} {n : Nat} {rest : Bytes} (h : decCompact bs = some (n, rest))
    (hn : n < 1073741824) : decCompactBig bs = some (n, rest) := by
  cases bs with
  | nil => cases h
  | cons b t =>
    rw [decCompactBig, if_neg, h]
    intro hb
    simp only [decCompact, hb] at h
    split at h
    · exact absurd (of_decide_eq_true ((Dec.filter_eq_some ..).1 h).2) (Nat.not_le.2 hn)
    · cases h

theorem decCompactBig_enc (n : Nat) (rest : Bytes) (h : n < 2 ^ 128) :
    decCompactBig (encCompactBig n ++ rest) = some (n, rest) := by
  unfold encCompactBig
  split
  · exact decCompactBig_of_small (decCompact_enc n rest (by omega)) ‹_›
  · rename_i hge
    -- the length `L` is the least that holds `n`: above 3 as `2 ^ 30 ≤ n`, at most 16 as `n < 2 ^ 128`
    have hL := fun k => leLen_le_iff 64 n k (Nat.lt_of_lt_of_le h (by decide))
    have h4 : ¬ leLen 64 n ≤ 3 := fun hc => hge (Nat.lt_trans ((hL 3).1 hc) (by decide))
    have h16 : leLen 64 n ≤ 16 := (hL 16).2 h
    have hlt : n < 256 ^ leLen 64 n := (hL _).1 (Nat.le_refl _)
    have hmin : ¬ n < 256 ^ (leLen 64 n - 1) := fun hc => by have := (hL _).2 hc; omega
    generalize leLen 64 n = L at *
    have hmax : max 4 L = L := by omega
    have e1 : ((L - 4) * 4 + 3) % 256 % 4 = 3 := by omega
    have e2 : ((L - 4) * 4 + 3) % 256 / 4 + 4 = L := by omega
    simp only [hmax, List.cons_append, decCompactBig, UInt8.toNat_ofNat', e1, e2, if_true, decLe_le L n rest hlt,
      show ¬ n < 1073741824 from hge, hmin, and_false, if_false]

/-! Bit sequences: `chunkVal` places the bits of a chunk at distinct positions, `bitsOfChunk` reads them there. -/

theorem testBit_two_pow_add {x p : Nat} (h : x.testBit p = false) (j : Nat) :
    (2 ^ p + x).testBit j = (decide (p = j) || x.testBit j) := by
  rcases Nat.lt_trichotomy j p with hj | rfl | hj
  · rw [Nat.testBit_two_pow_add_gt hj, decide_eq_false (by omega), Bool.false_or]
  · rw [Nat.testBit_two_pow_add_eq, h, decide_eq_true rfl]; rfl
  · obtain ⟨m, rfl⟩ : ∃ m, j = m + 1 + p := ⟨j - p - 1, by omega⟩
    have hy : ¬ x / 2 ^ p % 2 = 1 := of_decide_eq_false (Nat.testBit_eq_decide_div_mod_eq ▸ h)
    rw [Nat.testBit_add, Nat.testBit_add x, Nat.add_div_left _ (Nat.pow_pos (by decide)), Nat.testBit_add_one,
      Nat.testBit_add_one, decide_eq_false (by omega), Bool.false_or]
    congr 1; omega

abbrev bitSum (l : List (Bool × Nat)) : Nat := (l.map fun q => if q.1 then 2 ^ q.2 else 0).sum

theorem testBit_bitSum : ∀ (l : List (Bool × Nat)), (l.map (·.2)).Nodup →
    (∀ q ∈ l, (bitSum l).testBit q.2 = q.1) ∧ ∀ j, j ∉ l.map (·.2) → (bitSum l).testBit j = false
  | [], _ => ⟨fun _ h => (nomatch h), fun _ _ => Nat.zero_testBit _⟩
  | (b, p) :: l, nd => by
    rw [List.map_cons, List.nodup_cons] at nd
    obtain ⟨ih, ih0⟩ := testBit_bitSum l nd.2
    have hp := ih0 p nd.1
    simp only [bitSum, List.map_cons, List.sum_cons, List.mem_cons, not_or]
    cases b
    · simp only [Bool.false_eq_true, if_false, Nat.zero_add]
      exact ⟨fun q hq => hq.elim (fun e => by rw [e]; exact hp) (ih q), fun j hj => ih0 j hj.2⟩
    · simp only [if_true, testBit_two_pow_add hp]
      refine ⟨fun q hq => hq.elim (fun e => by rw [e, decide_eq_true rfl]; rfl) fun hq => ?_, fun j hj => ?_⟩
      · have hne : p ≠ q.2 := fun e => nd.1 (e ▸ List.mem_map_of_mem (f := (·.2)) hq)
        rw [ih q hq, decide_eq_false hne, Bool.false_or]
      · rw [ih0 j hj.2, decide_eq_false (Ne.symm hj.1)]; rfl

/-- position of bit `i` of a chunk inside the store element -/
def posOf (w : Nat) (msb : Bool) (i : Nat) : Nat := if msb then w - 1 - i else i

abbrev placed (w : Nat) (msb : Bool) (c : List Bool) : List (Bool × Nat) := c.zipIdx.map fun q => (q.1, posOf w msb q.2)

theorem chunkVal_eq (w : Nat) (msb : Bool) (c : List Bool) : chunkVal w msb c = bitSum (placed w msb c) := by
  simp only [chunkVal, bitSum, List.map_map]; rfl

theorem placed_pos (w : Nat) (msb : Bool) (c : List Bool) (h : c.length ≤ w) :
    ((placed w msb c).map (·.2)).Nodup ∧ ∀ j ∈ (placed w msb c).map (·.2), j < w := by
  have e : (placed w msb c).map (·.2) = (List.range' 0 c.length).map (posOf w msb) := by
    rw [← List.zipIdx_map_snd, List.map_map, List.map_map]; rfl
  rw [e]
  refine ⟨List.pairwise_map.2 ((List.pairwise_lt_range' (s := 0) (n := c.length)).imp_of_mem fun ha hb hab => ?_), fun j hj => ?_⟩
  · have := (List.mem_range'_1.1 hb).2
    unfold posOf; split <;> omega
  · obtain ⟨i, hi, rfl⟩ := List.mem_map.1 hj
    have := (List.mem_range'_1.1 hi).2
    unfold posOf; split <;> omega

theorem chunkVal_lt (w : Nat) (msb : Bool) (c : List Bool) (h : c.length ≤ w) : chunkVal w msb c < 2 ^ w := by
  obtain ⟨nd, lt⟩ := placed_pos w msb c h
  rw [chunkVal_eq]
  exact Nat.lt_pow_two_of_testBit _ fun j hj => (testBit_bitSum _ nd).2 j fun hm => Nat.not_lt.2 hj (lt j hm)

theorem bitsOfChunk_chunkVal (w : Nat) (msb : Bool) (c : List Bool) (h : c.length ≤ w) :
    bitsOfChunk w msb (chunkVal w msb c) c.length = c := by
  apply List.ext_getElem (by rw [bitsOfChunk, List.length_map, List.length_range])
  intro i _ hi
  have hm : (c[i], posOf w msb i) ∈ placed w msb c :=
    List.mem_map.2 ⟨(c[i], i), List.mk_mem_zipIdx_iff_getElem?.2 (List.getElem?_eq_getElem hi), rfl⟩
  simp only [bitsOfChunk, List.getElem_map, List.getElem_range, ← Nat.testBit_eq_decide_div_mod_eq, chunkVal_eq]
  exact (testBit_bitSum _ (placed_pos w msb c h).1).1 _ hm

theorem decBitChunks_chunks (w : Nat) (msb : Bool) (hw : 0 < w) (h8 : 256 ^ (w / 8) = 2 ^ w) (rest : Bytes) :
    ∀ (fuel : Nat) (bs : List Bool), bs.length < fuel →
      decBitChunks w msb fuel bs.length
        ((chunks w fuel bs).flatMap (fun c => le (w / 8) (chunkVal w msb c)) ++ rest) = some (bs, rest)
  | 0, _, h => absurd h (Nat.not_lt_zero _)
  | fuel + 1, [], _ => rfl
  | fuel + 1, b :: bs', h => by
    generalize hl : b :: bs' = l at h
    have hne : l.length ≠ 0 := by rw [← hl]; exact Nat.succ_ne_zero _
    have hem : l.isEmpty = false := by rw [← hl]; rfl
    have htl : (l.take w).length = min w l.length := List.length_take
    have ih := decBitChunks_chunks w msb hw h8 rest fuel (l.drop w) (by rw [List.length_drop]; omega)
    have hb := bitsOfChunk_chunkVal w msb (l.take w) (by rw [htl]; exact Nat.min_le_left ..)
    rw [List.length_drop] at ih
    rw [htl] at hb
    rw [decBitChunks_succ _ _ _ hne, chunks, hem, if_neg Bool.false_ne_true, List.flatMap_cons, List.append_assoc,
      decLe_le _ _ _ (by rw [h8]; exact chunkVal_lt w msb _ (by rw [htl]; exact Nat.min_le_left ..))]
    have e : l.length - min w l.length = l.length - w := by omega
    simp only [Option.bind, Dec.map, e, ih, hb, List.take_append_drop]

theorem primBits_bytes {p : Prim} {sg : Bool} {bits : Nat} (h : primBits p = some (sg, bits)) :
    0 < bits ∧ bits = 8 * (bits / 8) := by
  cases p <;> cases h <;> decide

theorem decPrimVal_of_primBits {p : Prim} {sg : Bool} {bits : Nat} (h : primBits p = some (sg, bits)) (bs : Bytes) :
    decPrimVal p bs = (decLe (bits / 8) bs).map fun q => (if sg then .sint bits (ofTwos bits q.1) else .uint bits q.1, q.2) := by
  unfold decPrimVal
  split
  · cases h
  · cases h
  · cases h
  · simp only [h]; cases decLe (bits / 8) bs <;> rfl

theorem decPrimVal_uint (p : Prim) (bits n : Nat) (rest : Bytes) (h : primBits p = some (false, bits))
    (hn : n < 2 ^ bits) : decPrimVal p (le (bits / 8) n ++ rest) = some (.uint bits n, rest) := by
  rw [decPrimVal_of_primBits h, decLe_le _ _ _ (by rw [pow256_div (primBits_bytes h).2]; exact hn)]
  rfl

theorem decPrimVal_sint (p : Prim) (bits : Nat) (z : Int) (rest : Bytes) (h : primBits p = some (true, bits))
    (hlo : -(2 ^ (bits - 1) : Int) ≤ z) (hhi : z < (2 ^ (bits - 1) : Int)) :
    decPrimVal p (le (bits / 8) (twos bits z) ++ rest) = some (.sint bits z, rest) := by
  rw [decPrimVal_of_primBits h, decLe_le _ _ _ (by rw [pow256_div (primBits_bytes h).2]; exact twos_lt bits z)]
  simp only [Option.map, if_true, ofTwos_twos bits z (primBits_bytes h).1 hlo hhi]

theorem storeWidth_cases (reg : PortableRegistry) (s w : Nat) (h : storeWidth reg s = some w) :
    w = 8 ∨ w = 16 ∨ w = 32 ∨ w = 64 := by
  unfold storeWidth at h
  split at h
  · split at h <;> cases h <;> decide
  · cases h

/-- `d'` answers wherever `d` does, with the same answer -/
def DLe {α} (d d' : Dec α) : Prop := ∀ bs r, d bs = some r → d' bs = some r

theorem DLe.map {α β} (f : α → β) {d d' : Dec α} (h : DLe d d') : DLe (Dec.map f d) (Dec.map f d') := by
  intro bs r hr
  simp only [Dec.map] at hr ⊢
  cases hd : d bs with
  | none => rw [hd] at hr; cases hr
  | some p => rw [h bs p hd]; rwa [hd] at hr

theorem DLe.bind {α β} {d d' : Dec α} (h : DLe d d') {k k' : α × Bytes → Option (β × Bytes)}
    (hk : ∀ p r, k p = some r → k' p = some r) (bs : Bytes) (r : β × Bytes) (hr : (d bs).bind k = some r) :
    (d' bs).bind k' = some r := by
  cases hd : d bs with
  | none => rw [hd] at hr; cases hr
  | some p => rw [h bs p hd]; rw [hd] at hr; exact hk p r hr

theorem DLe.rep {α} {d d' : Dec α} (h : DLe d d') : ∀ n, DLe (Dec.rep d n) (Dec.rep d' n)
  | 0 => fun _ _ hr => hr
  | n + 1 => fun bs r hr => by
    rw [Dec.rep_succ] at hr ⊢
    exact DLe.bind h (fun p => (DLe.rep h n).map _ p.2) bs r hr

theorem DLe.fields {f f' : Nat → Dec Val} (h : ∀ id, DLe (f id) (f' id)) :
    ∀ fs, DLe (decFields f fs) (decFields f' fs) := by
  intro fs
  induction fs with
  | nil => exact fun _ _ hr => hr
  | cons fld fs ih =>
    intro bs r hr
    rw [decFields_cons] at hr ⊢
    exact DLe.bind (h _) (fun p => ih.map _ p.2) bs r hr

theorem DLe.each {f f' : Nat → Dec Val} (h : ∀ id, DLe (f id) (f' id)) :
    ∀ ts, DLe (decEach f ts) (decEach f' ts)
  | [] => fun _ _ hr => hr
  | t :: ts => fun bs r hr => by
    rw [decEach_cons] at hr ⊢
    exact DLe.bind (h _) (fun p => (DLe.each h ts).map _ p.2) bs r hr

theorem Node.mono {reg : PortableRegistry} {rec rec' : Nat → Dec Val} (h : ∀ id, DLe (rec id) (rec' id)) {id : Nat}
    {bs : Bytes} {v : Val} {rest : Bytes} : Node reg rec id bs v rest → Node reg rec' id bs v rest
  | .primitive hr hd h1 => .primitive hr hd h1
  | .composite hr hd h1 => .composite hr hd (DLe.fields h _ _ _ h1)
  | .variant hr hd e hf h1 => .variant hr hd e hf (DLe.fields h _ _ _ h1)
  | .sequence hr hd hc h1 => .sequence hr hd hc (DLe.rep (h _) _ _ _ h1)
  | .array hr hd h1 => .array hr hd (DLe.rep (h _) _ _ _ h1)
  | .tuple hr hd h1 => .tuple hr hd (DLe.each h _ _ _ h1)
  | .compact hr hd hre hp hb hc hn => .compact hr hd hre hp hb hc hn
  | .bits hr hd hw hm hc h1 => .bits hr hd hw hm hc h1

theorem decodeVal_mono_succ (reg : PortableRegistry) : ∀ f id, DLe (decodeVal reg f id) (decodeVal reg (f + 1) id)
  | 0, _, _, _, hr => by simp [decodeVal] at hr
  | f + 1, _, _, (_, _), hr =>
    (decodeVal_succ_eq_some ..).2 (((decodeVal_succ_eq_some ..).1 hr).mono (decodeVal_mono_succ reg f))

theorem rep_encodeList (d : Dec Val) : ∀ (vs : List Val), (∀ v ∈ vs, ∀ rest, d (encode v ++ rest) = some (v, rest)) →
    ∀ rest, Dec.rep d vs.length (encodeList vs ++ rest) = some (vs, rest)
  | [], _, _ => rfl
  | v :: vs, h, rest => by
    simp only [List.length_cons, encodeList, List.append_assoc, Dec.rep, h v (.head _),
      rep_encodeList d vs (fun x hx => h x (.tail _ hx)) rest]

theorem decodeVal_of_node {reg : PortableRegistry} {m f id : Nat} {bs : Bytes} {v : Val} {rest : Bytes} (hf : m < f)
    (h : Node reg (decodeVal reg (f - 1)) id bs v rest) : decodeVal reg f id bs = some (v, rest) := by
  rw [← Nat.sub_add_cancel (Nat.zero_lt_of_lt hf)]; exact (decodeVal_succ_eq_some ..).2 h

theorem hasTy_decodes (reg : PortableRegistry) (id : Nat) (v : Val) (h : HasTy reg id v) :
    ∀ f, sizeOf v < f → ∀ rest, decodeVal reg f id (encode v ++ rest) = some (v, rest) := by
  -- each rule of `HasTy` is a `Node` of the decoder; members are smaller than the node, so its fuel less one serves them
  refine HasTy.rec
    (motive_2 := fun fs vs _ => ∀ f, sizeOf vs < f → ∀ rest,
      decFields (decodeVal reg f) fs (encodeFields vs ++ rest) = some (vs, rest))
    (motive_3 := fun ts vs _ => ∀ f, sizeOf vs < f → ∀ rest,
      decEach (decodeVal reg f) ts (encodeList vs ++ rest) = some (vs, rest))
    ?uint ?sint ?bool ?str ?composite ?variant ?seq ?array ?tuple ?compact ?bits ?fnil ?fcons ?enil ?econs h
  case uint =>
    exact fun hres hd hp hn f hf rest =>
      decodeVal_of_node hf (.primitive hres hd (decPrimVal_uint _ _ _ rest hp hn))
  case sint =>
    exact fun hres hd hp hlo hhi f hf rest =>
      decodeVal_of_node hf (.primitive hres hd (decPrimVal_sint _ _ _ rest hp hlo hhi))
  case bool =>
    exact fun {_ _ b} hres hd f hf rest =>
      decodeVal_of_node hf (.primitive hres hd (by cases b <;> rfl))
  case str =>
    exact fun hres hd hs f hf rest => decodeVal_of_node hf
      (.primitive hres hd (by simp only [encode, decPrimVal, Dec.map, good_str.rt _ rest hs]))
  case composite =>
    exact fun hres hd _ ih f hf rest => decodeVal_of_node hf
      (.composite hres hd (ih (f - 1) (by rw [Val.composite.sizeOf_spec] at hf; omega) rest))
  case variant =>
    intro id t vars v idx vs hres hd hfind hidx _ ih f hf rest
    have e : v.index = idx := by simpa using List.find?_some hfind
    subst e
    exact decodeVal_of_node hf (.variant hres hd rfl (by rwa [UInt8.toNat_ofNat_of_lt' hidx])
      (ih (f - 1) (by rw [Val.variant.sizeOf_spec] at hf; omega) rest))
  case seq =>
    intro id t e vs hres hd hlen _ ih f hf rest
    refine decodeVal_of_node hf (.sequence hres hd
      (by rw [encode, List.append_assoc]; exact decCompact_enc _ _ hlen)
      (rep_encodeList _ vs (fun v hv => ih v hv (f - 1) ?_) rest))
    have := List.sizeOf_lt_of_mem hv
    rw [Val.seq.sizeOf_spec] at hf; omega
  case array =>
    intro id t n e vs hres hd hlen _ ih f hf rest
    subst hlen
    refine decodeVal_of_node hf (.array hres hd
      (rep_encodeList _ vs (fun v hv => ih v hv (f - 1) ?_) rest))
    have := List.sizeOf_lt_of_mem hv
    rw [Val.array.sizeOf_spec] at hf; omega
  case tuple =>
    exact fun hres hd _ ih f hf rest => decodeVal_of_node hf
      (.tuple hres hd (ih (f - 1) (by rw [Val.tuple.sizeOf_spec] at hf; omega) rest))
  case compact =>
    exact fun hres hd hres' hd' hp hb hn f hf rest => decodeVal_of_node hf
      (.compact hres hd hres' hd' hp
        (decCompactBig_enc _ rest (Nat.lt_of_lt_of_le hn (Nat.pow_le_pow_right (by decide) hb))) hn)
  case bits =>
    intro id t s o w msb bs hres hd hw ho hlen f hf rest
    have hw' := storeWidth_cases reg s w hw
    exact decodeVal_of_node hf
      (.bits hres hd hw ho (by rw [encode, encBits, List.append_assoc]; exact decCompact_enc _ _ hlen)
        (decBitChunks_chunks _ _ (by omega) (pow256_div (by omega)) rest _ _ (Nat.lt_succ_self _)))
  case fnil | enil => exact fun _ _ _ => rfl
  case fcons =>
    intro fld fs v vs _ _ ih1 ih2 f hf rest
    simp only [List.cons.sizeOf_spec, Prod.mk.sizeOf_spec] at hf
    simp only [encodeFields, List.append_assoc, decFields, ih1 f (by omega), ih2 f (by omega)]
  case econs =>
    intro t ts v vs _ _ ih1 ih2 f hf rest
    simp only [List.cons.sizeOf_spec] at hf
    simp only [encodeList, List.append_assoc, decEach, ih1 f (by omega), ih2 f (by omega)]

section Builtin
open Impls

theorem primBits_uint (w : W) : primBits (primOfUint w) = some (false, w.bits) := by cases w <;> rfl
theorem primBits_sint (w : W) : primBits (primOfSint w) = some (true, w.bits) := by cases w <;> rfl
theorem _root_.SIM.W.bits_le (w : W) : w.bits ≤ 128 := by cases w <;> decide

theorem isPhantom_uint (w : W) : isPhantom (.uint w) = false := rfl
theorem isPhantom_sint (w : W) : isPhantom (.sint w) = false := rfl
theorem isPhantom_slice (t : TyExpr) : isPhantom (.slice t) = false := rfl

end Builtin

end Value
end SIM
