/-
  C13 — the where clause the derive generates: an explicit `bounds(..)` replaces it, the generated one is minimal,
  skipped members / skipped parameters are not bound, and it is sufficient: the derived impl is usable whenever the
  non-skipped parameters and the encoded members have type info (up to 1000 parameters: the model writes the `k`-th
  parameter as `adt (1000 + k)`).
-/
import SIM.Model.Bounds
namespace SIM
namespace C13
open Bounds Spec

/-- only `'static` is added to an explicit `bounds(..)` -/
theorem bounds_custom (d : GDecl) (ks : List Nat) (h : d.customBounds = some ks) :
    whereClause d = ks.map (fun k => Pred.typeInfo (.adt (1000 + k) .tuple0)) ++ (List.range d.params.length).map Pred.static_ := by
  simp only [whereClause, h]

theorem mem_whereClause {d : GDecl} (h : d.customBounds = none) {p : Pred} :
    p ∈ whereClause d ↔ d.params ≠ [] ∧
      ((∃ f ∈ d.fields, (f.skip = false ∧ mentionsParam f.ty = true ∧ mentionsSelf f.ty = false) ∧
          (if f.compact then Pred.hasCompact f.ty else Pred.typeInfo f.ty) = p) ∨
       (∃ k, k < d.params.length ∧
          (if (d.params[k]?.map (·.skipped)).getD false then Pred.static_ k else Pred.typeInfo (.adt (1000 + k) .tuple0)) = p)) := by
  simp only [whereClause, h, List.isEmpty_iff]
  split
  next he => exact ⟨nofun, fun hp => absurd he hp.1⟩
  next he =>
    simp only [List.mem_append, List.mem_map, List.mem_filter, List.mem_range, Bool.and_eq_true, Bool.not_eq_true', ne_eq, he,
      not_false_eq_true, true_and, and_assoc]

/-- every generated predicate is needed by the generated body (`obligations`), or is a `'static` bound -/
theorem bounds_minimal (d : GDecl) (h : d.customBounds = none) :
    ∀ p ∈ whereClause d, (∃ k, p = Pred.static_ k) ∨ p ∈ obligations d := by
  intro p hp
  rcases ((mem_whereClause h).1 hp).2 with ⟨f, hf, ⟨hs, -, -⟩, rfl⟩ | ⟨k, hk, rfl⟩
  · right
    refine List.mem_append.2 (Or.inl (List.mem_map.2 ⟨f, List.mem_filter.2 ⟨hf, ?_⟩, rfl⟩))
    simp [hs]
  · cases hsk : (d.params[k]?.map (·.skipped)).getD false with
    | true => left; exact ⟨k, by simp⟩
    | false =>
      right
      refine List.mem_append.2 (Or.inr (List.mem_map.2 ⟨k, List.mem_filter.2 ⟨List.mem_range.2 hk, ?_⟩, ?_⟩))
      · simp [hsk]
      · simp

theorem skipped_members_unbound (d : GDecl) (h : d.customBounds = none) (t : TyExpr)
    (hp : Pred.typeInfo t ∈ whereClause d ∨ Pred.hasCompact t ∈ whereClause d) :
    (∃ f ∈ d.fields, f.skip = false ∧ f.ty = t) ∨ (∃ k, t = .adt (1000 + k) .tuple0) := by
  -- `he` equates the bound contributed (an `if`) with the one asked about: the branch of another kind is absurd, the other gives `t`
  rcases hp with hp | hp <;> rcases ((mem_whereClause h).1 hp).2 with ⟨f, hf, ⟨hs, -, -⟩, he⟩ | ⟨k, -, he⟩
  · exact .inl ⟨f, hf, hs, by split at he <;> cases he; rfl⟩
  · exact .inr ⟨k, by split at he <;> cases he; rfl⟩
  · exact .inl ⟨f, hf, hs, by split at he <;> cases he; rfl⟩
  · split at he <;> cases he

/-- a parameter named in skip_type_params gets no TypeInfo bound of its own -/
theorem bounds_skip (d : GDecl) (h : d.customBounds = none) (k : Nat) (hk : k < d.params.length)
    (hs : (d.params[k]?.map (·.skipped)).getD false = true)
    (hfield : ∀ f ∈ d.fields, f.skip = false → f.ty ≠ .adt (1000 + k) .tuple0) :
    Pred.typeInfo (.adt (1000 + k) .tuple0) ∉ whereClause d := by
  intro hp
  rcases ((mem_whereClause h).1 hp).2 with ⟨f, hf, ⟨hsk, -, -⟩, he⟩ | ⟨k', -, he⟩ <;> split at he
  · cases he
  · exact hfield f hf hsk (Pred.typeInfo.inj he)
  · cases he
  next hns =>
    obtain rfl : k' = k := by have := (TyExpr.adt.inj (Pred.typeInfo.inj he)).1; omega
    exact hns hs

/-- `k < 1000`: the range the model's encoding reserves for parameters -/
theorem subst_param (inst : List TyExpr) (k : Nat) (hk : k < 1000) :
    subst inst (.adt (1000 + k) .tuple0) = inst[k]?.getD .tuple0 := by
  rw [subst, if_pos (by simp only [Bool.and_eq_true, decide_eq_true_eq]; omega), Nat.add_sub_cancel_left]

/-- `henc`: the model writes the `k`-th parameter as `adt (1000+k)`, and `subst` reads `adt 2000..2999` as associated types;
    without it the statement is false in the model (`bounds_sufficient_counterexample`) -/
theorem bounds_sufficient_partial (d : GDecl) (inst : List TyExpr) (h : d.customBounds = none)
    (henc : ∀ k, k < d.params.length → (d.params[k]?.map (·.skipped)).getD false = false → k < 1000)
    (hs : usableSpec d inst = true) : usable d inst = true := by
  simp only [usableSpec, Bool.and_eq_true, List.all_eq_true] at hs
  obtain ⟨hpar, hfld⟩ := hs
  simp only [usable, List.all_eq_true]
  intro p hp
  rcases ((mem_whereClause h).1 hp).2 with ⟨f, hf, ⟨hsk, -, -⟩, rfl⟩ | ⟨k, hk, rfl⟩
  · have := hfld f hf
    simp only [hsk, Bool.false_or] at this
    cases hc : f.compact <;> simpa [hc, holds] using this
  · cases hsk : (d.params[k]?.map (·.skipped)).getD false with
    | true => simp [holds]
    | false =>
      have := hpar k (List.mem_range.2 hk)
      simp only [hsk, Bool.false_or] at this
      simp only [Bool.false_eq_true, if_false, holds]
      rw [subst_param inst k (henc k hk hsk)]
      exact this

theorem bounds_sufficient_le (d : GDecl) (inst : List TyExpr) (h : d.customBounds = none)
    (hlen : d.params.length ≤ 1000)
    (hs : usableSpec d inst = true) : usable d inst = true :=
  bounds_sufficient_partial d inst h (fun _ hk _ => Nat.lt_of_lt_of_le hk hlen) hs

/-- 1001 non-skipped parameters: the bound on parameter 1000 is written `adt 2000`, which `subst` reads as the associated
    type `P_0::A` -/
def cex : GDecl := { params := List.replicate 1001 ⟨[], false⟩, customBounds := none, fields := [] }

theorem bounds_sufficient_counterexample :
    cex.customBounds = none ∧ usableSpec cex [] = true ∧ usable cex [] = false := by
  have hlen : cex.params.length = 1001 := List.length_replicate ..
  refine ⟨rfl, ?_, Bool.eq_false_iff.2 fun hu => ?_⟩
  · simp only [usableSpec, Bool.and_eq_true, List.all_eq_true]
    refine ⟨fun k _ => ?_, fun f hf => by cases hf⟩
    simp [hasInfo]
  · have hmem : Pred.typeInfo (.adt (1000 + 1000) .tuple0) ∈ whereClause cex :=
      (mem_whereClause (d := cex) rfl).2 ⟨List.ne_nil_of_length_pos (hlen ▸ by decide), .inr ⟨1000, hlen ▸ by decide,
        by rw [show cex.params = List.replicate 1001 _ from rfl, List.getElem?_replicate]; rfl⟩⟩
    exact absurd (List.all_eq_true.1 hu _ hmem) (by decide)

/-- `struct S<T>(T)` at `T = u8` and at `T = NoInfo`; with `T` in `skip_type_params` and the member `#[codec(skip)]`, at `T = NoInfo` -/
example : usable { params := [⟨[84], false⟩], customBounds := none, fields := [⟨.adt 1000 .tuple0, false, false⟩] }
    [.uint .w8] = true := by decide
example : usable { params := [⟨[84], false⟩], customBounds := none, fields := [⟨.adt 1000 .tuple0, false, false⟩] }
    [.adt 4002 .tuple0] = false := by decide
example : usable { params := [⟨[84], true⟩], customBounds := none, fields := [⟨.adt 1000 .tuple0, true, false⟩] }
    [.adt 4002 .tuple0] = true := by decide

end C13
end SIM
