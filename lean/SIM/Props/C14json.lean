/-
  C14 (JSON reader) — whatever document `toRegistry` accepts (map form, positional form, any members, any junk), every id,
  array length and variant index of the result is inside the range of its Rust type (`u32` / `u8`): an out-of-range
  number is rejected, never wrapped or truncated.
-/
import SIM.Lemmas.Json
namespace SIM
namespace C14
open JsonM

def numField (f : Field Nat) : Prop := f.ty < 4294967296
def numVariant (v : Variant Nat) : Prop := (∀ f ∈ v.fields, numField f) ∧ v.index < 256
def numTypeDef : TypeDef Nat → Prop
  | .composite fs => ∀ f ∈ fs, numField f
  | .variant vs => ∀ v ∈ vs, numVariant v
  | .sequence t => t < 4294967296
  | .array n t => n < 4294967296 ∧ t < 4294967296
  | .tuple ts => ∀ t ∈ ts, t < 4294967296
  | .primitive _ => True
  | .compact t => t < 4294967296
  | .bitSequence s o => s < 4294967296 ∧ o < 4294967296
def numParam (p : TypeParam Nat) : Prop := match p.ty with | none => True | some t => t < 4294967296
def numTy (t : Ty Nat) : Prop := (∀ p ∈ t.params, numParam p) ∧ numTypeDef t.def_
def numRegistry (r : PortableRegistry) : Prop := ∀ p ∈ r, p.id < 4294967296 ∧ numTy p.ty

/-! Each reader is a chain of `match … with | .error e => .error e | .ok a => …`; every `split at h` below opens one link, whose
    `.error` branch contradicts `h`, and `rename_i` names the equation of a link whose value is a number. -/

theorem deField_num {j : Json} {f : Field Nat} (h : deField j = .ok f) : numField f := by
  unfold deField at h
  split at h
  · cases h
  split at h
  · cases h
  split at h
  · cases h
  rename_i hty
  split at h
  · cases h
  split at h
  · cases h
  cases h
  exact req_sat deU_ok hty

theorem deVariant_num {j : Json} {v : Variant Nat} (h : deVariant j = .ok v) : numVariant v := by
  unfold deVariant at h
  split at h
  · cases h
  split at h
  · cases h
  split at h
  · cases h
  rename_i hfs
  split at h
  · cases h
  rename_i hidx
  split at h
  · cases h
  cases h
  exact ⟨dflt_sat (deArr_sat deField_num) hfs nofun, req_sat deU_ok hidx⟩

theorem deParam_num {j : Json} {p : TypeParam Nat} (h : deParam j = .ok p) : numParam p := by
  unfold deParam at h
  split at h
  · cases h
  split at h
  · cases h
  split at h
  · cases h
  rename_i ty hty
  cases h
  cases ty with
  | none => trivial
  | some t =>
    -- the member is required in the positional form and optional in the map form
    split at hty
    · exact req_sat (deOpt_sat deU_ok) hty t rfl
    · exact dflt_sat (deOpt_sat deU_ok) hty nofun t rfl

theorem deTypeOnly_num {j : Json} {n : Nat} (h : deTypeOnly j = .ok n) : n < 4294967296 := by
  unfold deTypeOnly at h
  split at h
  · cases h
  · exact req_sat deU_ok h

theorem deTypeDef_num {j : Json} {d : TypeDef Nat} (h : deTypeDef j = .ok d) : numTypeDef d := by
  unfold deTypeDef at h
  split at h
  · split at h
    · -- composite
      split at h
      · cases h
      split at h
      · cases h
      rename_i hfs
      cases h
      exact dflt_sat (deArr_sat deField_num) hfs nofun
    · -- variant
      split at h
      · cases h
      split at h
      · cases h
      rename_i hvs
      cases h
      exact dflt_sat (deArr_sat deVariant_num) hvs nofun
    · -- sequence
      split at h
      · cases h
      rename_i ht
      cases h
      exact deTypeOnly_num ht
    · -- array
      split at h
      · cases h
      split at h
      · cases h
      rename_i hn
      split at h
      · cases h
      rename_i ht
      cases h
      exact ⟨req_sat deU_ok hn, req_sat deU_ok ht⟩
    · -- tuple
      split at h
      · cases h
      rename_i hts
      cases h
      exact deArr_sat deU_ok hts
    · -- primitive
      split at h
      · cases h
      cases h
      trivial
    · -- compact
      split at h
      · cases h
      rename_i ht
      cases h
      exact deTypeOnly_num ht
    · -- bitsequence
      split at h
      · cases h
      split at h
      · cases h
      rename_i hs
      split at h
      · cases h
      rename_i ho
      cases h
      exact ⟨req_sat deU_ok hs, req_sat deU_ok ho⟩
    · cases h
  · cases h
  · cases h

theorem deTy_num {j : Json} {t : Ty Nat} (h : deTy j = .ok t) : numTy t := by
  unfold deTy at h
  split at h
  · cases h
  split at h
  · cases h
  split at h
  · cases h
  rename_i hps
  split at h
  · cases h
  rename_i hd
  split at h
  · cases h
  cases h
  exact ⟨dflt_sat (deArr_sat deParam_num) hps nofun, req_sat deTypeDef_num hd⟩

theorem dePType_num {j : Json} {p : PType} (h : dePType j = .ok p) : p.id < 4294967296 ∧ numTy p.ty := by
  unfold dePType at h
  split at h
  · cases h
  split at h
  · cases h
  rename_i hid
  split at h
  · cases h
  rename_i ht
  cases h
  exact ⟨req_sat deU_ok hid, req_sat deTy_num ht⟩

theorem json_in_range (j : Json) (r : PortableRegistry) (h : JsonM.toRegistry j = .ok r) : numRegistry r := by
  unfold toRegistry at h
  split at h
  · cases h
  · exact req_sat (deArr_sat dePType_num) h

/-- `{"types":[{"id":ID,"type":{"def":{"tuple":[]}}}]}` -/
def docId (id : Nat) : Json :=
  .obj [(.types, .arr [.obj [(.id, .num id), (.type_, .obj [(.def_, .obj [(.tuple, .arr [])])])]])]

/-- `{"types":[{"id":0,"type":{"def":{"variant":{"variants":[{"name":"","index":IDX}]}}}}]}` -/
def docIndex (idx : Nat) : Json :=
  .obj [(.types, .arr [.obj [(.id, .num 0), (.type_, .obj [(.def_, .obj [(.variant,
    .obj [(.variants, .arr [.obj [(.name, .str []), (.index, .num idx)]])])])])]])]

/-- `[[[ID,[[],[],{"tuple":[]},[]]]]]` -/
def posDocId (id : Nat) : Json :=
  .arr [.arr [.arr [.num id, .arr [.arr [], .arr [], .obj [(.tuple, .arr [])], .arr []]]]]

/-- `[[[0,[[],[],{"variant":[[["",[],IDX,[]]]]},[]]]]]` -/
def posDocIndex (idx : Nat) : Json :=
  .arr [.arr [.arr [.num 0, .arr [.arr [], .arr [],
    .obj [(.variant, .arr [.arr [.arr [.str [], .arr [], .num idx, .arr []]]])], .arr []]]]]

/-- the boundary in both forms -/
example : toRegistry (docId 4294967296) = .error .reject := rfl
example : toRegistry (docId 4294967295) =
    .ok [{ id := 4294967295, ty := { path := [], params := [], def_ := .tuple [], docs := [] } }] := rfl
example : toRegistry (docIndex 256) = .error .reject := rfl
example : toRegistry (docIndex 255) =
    .ok [⟨0, ⟨[], [], .variant [{ name := [], fields := [], index := 255, docs := [] }], []⟩⟩] := rfl
example : toRegistry (posDocId 4294967296) = .error .reject := rfl
example : toRegistry (posDocId 4294967295) = toRegistry (docId 4294967295) := rfl
example : toRegistry (posDocIndex 256) = .error .reject := rfl
example : toRegistry (posDocIndex 255) = toRegistry (docIndex 255) := rfl
/-- a length and a reference at the boundary -/
example : toRegistry (.obj [(.types, .arr [.obj [(.id, .num 0), (.type_, .obj [(.def_, .obj [(.array,
    .obj [(.len, .num 4294967296), (.type_, .num 0)])])])]])]) = .error .reject := rfl
example : toRegistry (.obj [(.types, .arr [.obj [(.id, .num 0), (.type_, .obj [(.def_, .obj [(.array,
    .obj [(.len, .num 0), (.type_, .num 4294967296)])])])]])]) = .error .reject := rfl

end C14
end SIM
