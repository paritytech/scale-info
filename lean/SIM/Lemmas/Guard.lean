/-
  SIM.Lemmas.Guard — the pre-flight of `SIM.Driver.Guard` walks everything `decodeVal` reads, at a cost
  (`steps`) that is a function of the decoded value alone: one lemma per loop of the pre-flight (`preRep`, `preEach`)
  against the loop of the decoder it shadows, then `preflight_follows` node by node (`Value.Node`).
-/
import SIM.Driver.Guard
import SIM.Lemmas.Value
namespace SIM
namespace Driver
open Codec Value

mutual
/-- one unit per node entered, one more per repetition step of a sequence / array -/
def steps : Val → Nat
  | .uint _ _ => 1
  | .sint _ _ => 1
  | .bool _ => 1
  | .str _ => 1
  | .seq vs => 1 + stepsRep vs
  | .array vs => 1 + stepsRep vs
  | .tuple vs => 1 + stepsList vs
  | .composite fs => 1 + stepsFields fs
  | .variant _ _ fs => 1 + stepsFields fs
  | .compact _ _ => 1
  | .bits _ _ _ => 1
def stepsRep : List Val → Nat
  | [] => 0
  | v :: vs => 1 + steps v + stepsRep vs
def stepsList : List Val → Nat
  | [] => 0
  | v :: vs => steps v + stepsList vs
def stepsFields : List (Option Str × Val) → Nat
  | [] => 0
  | (_, v) :: fs => steps v + stepsFields fs
end

/-- `f` walks `d`: whatever `d` reads, `f` walks to the same remainder for `steps` units. The budget is written as a sum, so
    that no step has to subtract. -/
def Follows (f : Pre) (d : Dec Val) : Prop :=
  ∀ bs v rest, d bs = some (v, rest) → ∀ b, f bs (steps v + b) = some (rest, b)

/-- one unit taken from a budget `1 + k`, as `preRep` and `preflight` do on entry -/
theorem budget_succ (k : Nat) : (1 + k = 0) = False ∧ 1 + k - 1 = k := ⟨by simp, by omega⟩

theorem preRep_rep (f : Pre) (d : Dec Val) (hf : Follows f d) :
    ∀ n bs vs rest, Dec.rep d n bs = some (vs, rest) → ∀ b, preRep f n bs (stepsRep vs + b) = some (rest, b)
  | 0, _, _, _, h, _ => by cases h; simp only [stepsRep, Nat.zero_add, preRep]
  | n + 1, bs, _, rest, h, b => by
    simp only [Dec.rep_succ, Option.bind_eq_some_iff, Prod.exists, Dec.map_eq_some] at h
    obtain ⟨a, r1, h1, as, h2, rfl⟩ := h
    simp only [stepsRep, preRep, Nat.add_assoc, budget_succ, if_false, hf bs a r1 h1, preRep_rep f d hf n r1 as rest h2 b]

theorem preEach_decEach (f : Nat → Pre) (d : Nat → Dec Val) (hf : ∀ t, Follows (f t) (d t)) :
    ∀ ts bs vs rest, decEach d ts bs = some (vs, rest) → ∀ b, preEach f ts bs (stepsList vs + b) = some (rest, b)
  | [], _, _, _, h, _ => by cases h; simp only [stepsList, Nat.zero_add, preEach]
  | t :: ts, bs, _, rest, h, b => by
    simp only [decEach_cons, Option.bind_eq_some_iff, Prod.exists, Dec.map_eq_some] at h
    obtain ⟨a, r1, h1, as, h2, rfl⟩ := h
    simp only [stepsList, preEach, Nat.add_assoc, hf t bs a r1 h1, preEach_decEach f d hf ts r1 as rest h2 b]

theorem preEach_decFields (f : Nat → Pre) (d : Nat → Dec Val) (hf : ∀ t, Follows (f t) (d t)) :
    ∀ fs bs vs rest, decFields d fs bs = some (vs, rest) →
      ∀ b, preEach f (fs.map (·.ty)) bs (stepsFields vs + b) = some (rest, b)
  | [], _, _, _, h, _ => by cases h; simp only [stepsFields, Nat.zero_add, List.map_nil, preEach]
  | t :: ts, bs, _, rest, h, b => by
    simp only [decFields_cons, Option.bind_eq_some_iff, Prod.exists, Dec.map_eq_some] at h
    obtain ⟨a, r1, h1, as, h2, rfl⟩ := h
    simp only [stepsFields, List.map_cons, preEach, Nat.add_assoc, hf t.ty bs a r1 h1,
      preEach_decFields f d hf ts r1 as rest h2 b]

theorem decPrimVal_steps (p : Prim) (bs : Bytes) (v : Val) (rest : Bytes)
    (h : decPrimVal p bs = some (v, rest)) : steps v = 1 := by
  unfold decPrimVal at h
  split at h
  · split at h
    · split at h
      · cases h; rfl
      · split at h <;> cases h; rfl
    · cases h
  · cases h
  · obtain ⟨x, _, rfl⟩ := (Dec.map_eq_some ..).1 h; rfl
  · split at h
    · cases h
    · split at h
      · cases h
      · cases h; split <;> rfl

theorem decBitChunks_length (w : Nat) (msb : Bool) (hw : 0 < w) (h8 : w = 8 * (w / 8)) :
    ∀ fuel n bs r, n ≤ fuel → decBitChunks w msb fuel n bs = some r → n ≤ 8 * bs.length
  | 0, n, bs, _, hn, h => by omega
  | fuel + 1, n, bs, _, hn, h => by
    by_cases hn0 : n = 0
    · omega
    · simp only [decBitChunks_succ _ _ _ hn0, Option.bind_eq_some_iff] at h
      obtain ⟨p, h1, h2⟩ := h
      obtain ⟨q, h2, -⟩ := (Dec.map_eq_some ..).1 h2
      have := decBitChunks_length w msb hw h8 fuel _ p.2 _ (by omega) h2
      have := (good_le (w / 8)).length_eq h1
      rw [le_length] at this
      omega

theorem preflight_follows (reg : PortableRegistry) :
    ∀ fuel id, Follows (preflight reg fuel id) (decodeVal reg fuel id)
  | 0, _, _, _, _, h => by simp [decodeVal] at h
  | fuel + 1, id, bs, v, rest, h => by
    intro b
    have ih := preflight_follows reg fuel
    -- a leaf is read by the pre-flight through `decodeVal reg 1`
    have leaf := (decodeVal_succ_eq_some reg 0 id bs v rest).2
    cases (decodeVal_succ_eq_some ..).1 h with
    | primitive hr hd h1 =>
      simp only [preflight, decPrimVal_steps _ _ _ _ h1, budget_succ, if_false, hr, hd, leaf (.primitive hr hd h1)]
    | composite hr hd h1 =>
      simp only [preflight, steps, Nat.add_assoc, budget_succ, if_false, hr, hd, preEach_decFields _ _ ih _ _ _ _ h1]
    | variant hr hd e hf h1 =>
      subst e
      simp only [preflight, steps, Nat.add_assoc, budget_succ, if_false, hr, hd, hf, preEach_decFields _ _ ih _ _ _ _ h1]
    | sequence hr hd hc h1 =>
      simp only [preflight, steps, Nat.add_assoc, budget_succ, if_false, hr, hd, hc, preRep_rep _ _ (ih _) _ _ _ _ h1]
    | array hr hd h1 =>
      simp only [preflight, steps, Nat.add_assoc, budget_succ, if_false, hr, hd, preRep_rep _ _ (ih _) _ _ _ _ h1]
    | tuple hr hd h1 =>
      simp only [preflight, steps, Nat.add_assoc, budget_succ, if_false, hr, hd, preEach_decEach _ _ ih _ _ _ _ h1]
    | compact hr hd hre hp hbits hc hn =>
      simp only [preflight, steps, budget_succ, if_false, hr, hd, leaf (.compact hr hd hre hp hbits hc hn)]
    | @bits _ _ _ _ _ n _ _ _ hr hd hw hm hc h1 =>
      -- the length prefix never exceeds the bits that follow
      have hw' := storeWidth_cases reg _ _ hw
      have hlen := decBitChunks_length _ _ (by omega) (by omega) _ _ _ _ (by omega) h1
      have hcl := good_compact.length_eq hc
      simp only [preflight, steps, budget_succ, if_false, hr, hd, hc, if_neg (by omega : ¬ n > 8 * bs.length),
        leaf (.bits hr hd hw hm hc h1)]

end Driver
end SIM
