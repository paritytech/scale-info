/-
  C12 — for every finite sequence of operations the observable results of the interner (`map` + `vec` as in
  src/interner.rs) and of the builder (src/portable.rs:262-303) equal those of the specification `DL`, a duplicate-free
  list. The `spec_*` theorems say that `DL` is what C12 describes.
-/
import SIM.Lemmas.Interner
namespace SIM
namespace C12
variable {α : Type} [DecidableEq α]

inductive Op (α : Type)
  | intern (x : α) | get (x : α) | resolve (sym : Nat) | elements

inductive Out (α : Type)
  | interned (inserted : Bool) (id : Nat)
  | sym (o : Option Nat)
  | val (o : Option α)
  | elems (l : List α)
  deriving DecidableEq

/-- src/interner.rs:168-216 (`intern_or_get`, `get`, `resolve`, `elements`) -/
def implStep (it : Interner α) : Op α → Interner α × Out α
  | .intern x => let r := it.internOrGet x; (r.2.2, .interned r.1 r.2.1)
  | .get x => (it, .sym (it.get x))
  | .resolve i => (it, .val (it.resolve i))
  | .elements => (it, .elems it.elements)

def specStep (l : List α) : Op α → List α × Out α
  | .intern x => let r := DL.intern l x; (r.2.2, .interned r.1 r.2.1)
  | .get x => (l, .sym (DL.get l x))
  | .resolve i => (l, .val (DL.resolve l i))
  | .elements => (l, .elems l)

def run {σ : Type} (step : σ → Op α → σ × Out α) : σ → List (Op α) → σ × List (Out α)
  | s, [] => (s, [])
  | s, op :: ops => let r := step s op; let rest := run step r.1 ops; (rest.1, r.2 :: rest.2)

theorem interner_step_refines (it : Interner α) (h : it.Inv) (op : Op α) :
    (implStep it op).2 = (specStep it.vec op).2 ∧
    (implStep it op).1.vec = (specStep it.vec op).1 ∧
    (implStep it op).1.Inv := by
  cases op with
  | intern x =>
    obtain ⟨h1, h2, h3, h4⟩ := Interner.internOrGet_spec it h x
    simp only [implStep, specStep]
    exact ⟨by rw [h1, h2], h3, h4⟩
  | get x => exact ⟨by simp only [implStep, specStep, Interner.get_spec it h x], rfl, h⟩
  | resolve i => exact ⟨by simp only [implStep, specStep, Interner.resolve_spec it i], rfl, h⟩
  | elements => exact ⟨rfl, rfl, h⟩

theorem interner_refines (ops : List (Op α)) (it : Interner α) (h : it.Inv) :
    (run implStep it ops).2 = (run specStep it.vec ops).2 ∧
    (run implStep it ops).1.vec = (run specStep it.vec ops).1 ∧
    (run implStep it ops).1.Inv := by
  induction ops generalizing it with
  | nil => exact ⟨rfl, rfl, h⟩
  | cons op ops ih =>
    obtain ⟨h1, h2, h3⟩ := interner_step_refines it h op
    obtain ⟨i1, i2, i3⟩ := ih (implStep it op).1 h3
    simp only [run]
    rw [h2] at i1 i2
    exact ⟨by rw [h1, i1], i2, i3⟩

theorem interner_refines_empty (ops : List (Op α)) :
    (run implStep (Interner.empty : Interner α) ops).2 = (run specStep [] ops).2 :=
  (interner_refines ops Interner.empty Interner.inv_empty).1

theorem spec_nodup (ops : List (Op α)) (l : List α) (h : l.Nodup) : (run specStep l ops).1.Nodup := by
  induction ops generalizing l with
  | nil => exact h
  | cons op ops ih =>
    apply ih
    cases op with
    | intern x => exact DL.intern_nodup l x h
    | _ => exact h

theorem spec_intern_new (l : List α) (x : α) (h : x ∉ l) :
    DL.intern l x = (true, l.length, l ++ [x]) := by
  simp [DL.intern, h]

theorem spec_intern_old (l : List α) (x : α) (h : x ∈ l) :
    DL.intern l x = (false, l.idxOf x, l) ∧ l[l.idxOf x]? = some x :=
  ⟨by simp [DL.intern, h], Reg.getElem?_idxOf h⟩

theorem spec_append_only (l : List α) (op : Op α) : l <+: (specStep l op).1 := by
  cases op with
  | intern x =>
    simp only [specStep, DL.intern]
    split
    · exact List.prefix_refl l
    · exact List.prefix_append l [x]
  | _ => exact List.prefix_refl l

inductive BOp
  | register (t : Ty Nat) | next | get (id : Nat) | finish

inductive BOut
  | id (n : Nat) | ty (o : Option (Ty Nat)) | reg (r : PortableRegistry)
  deriving DecidableEq

/-- src/portable.rs:266-303 (`register_type`, `next_type_id`, `get`, `finish`) -/
def bImplStep (b : Builder) : BOp → Builder × BOut
  | .register t => let r := b.registerType t; (r.2, .id r.1)
  | .next => (b, .id b.nextTypeId)
  | .get i => (b, .ty (b.get i))
  | .finish => (b, .reg b.finish)

def bSpecStep (l : List (Ty Nat)) : BOp → List (Ty Nat) × BOut
  | .register t => let r := DL.intern l t; (r.2.2, .id r.2.1)
  | .next => (l, .id l.length)
  | .get i => (l, .ty l[i]?)
  | .finish => (l, .reg (Builder.enumFrom 0 l))

def bRun {σ : Type} (step : σ → BOp → σ × BOut) : σ → List BOp → σ × List BOut
  | s, [] => (s, [])
  | s, op :: ops => let r := step s op; let rest := bRun step r.1 ops; (rest.1, r.2 :: rest.2)

theorem builder_step_refines (b : Builder) (h : b.types.Inv) (op : BOp) :
    (bImplStep b op).2 = (bSpecStep b.types.vec op).2 ∧
    (bImplStep b op).1.types.vec = (bSpecStep b.types.vec op).1 ∧
    (bImplStep b op).1.types.Inv := by
  cases op with
  | register t =>
    obtain ⟨_, h2, h3, h4⟩ := Interner.internOrGet_spec b.types h t
    simp only [bImplStep, bSpecStep, Builder.registerType]
    exact ⟨by rw [h2], h3, h4⟩
  | next | get _ | finish => exact ⟨rfl, rfl, h⟩

theorem builder_refines (ops : List BOp) (b : Builder) (h : b.types.Inv) :
    (bRun bImplStep b ops).2 = (bRun bSpecStep b.types.vec ops).2 ∧
    (bRun bImplStep b ops).1.types.vec = (bRun bSpecStep b.types.vec ops).1 ∧
    (bRun bImplStep b ops).1.types.Inv := by
  induction ops generalizing b with
  | nil => exact ⟨rfl, rfl, h⟩
  | cons op ops ih =>
    obtain ⟨h1, h2, h3⟩ := builder_step_refines b h op
    obtain ⟨i1, i2, i3⟩ := ih (bImplStep b op).1 h3
    simp only [bRun]
    rw [h2] at i1 i2
    exact ⟨by rw [h1, i1], i2, i3⟩

theorem builder_refines_new (ops : List BOp) :
    (bRun bImplStep Builder.new ops).2 = (bRun bSpecStep [] ops).2 :=
  (builder_refines ops Builder.new Interner.inv_empty).1

theorem next_announces (b : Builder) (h : b.types.Inv) (t : Ty Nat) (hn : t ∉ b.types.vec) :
    (b.registerType t).1 = b.nextTypeId := by
  simp only [Builder.registerType, Builder.nextTypeId, Interner.elements, Interner.internOrGet_of_not_mem h hn]

theorem finish_lists (b : Builder) (i : Nat) :
    (b.finish)[i]? = (b.types.vec[i]?).map (fun t => { id := i, ty := t }) :=
  b.finish_getElem? i

/-- a duplicate arriving after an unrelated insertion -/
example : (run implStep (Interner.empty : Interner Nat)
    [.intern 7, .intern 9, .intern 7, .get 9, .get 3, .resolve 1, .resolve 5, .elements]).2 =
    [.interned true 0, .interned true 1, .interned false 0, .sym (some 1), .sym none,
     .val (some 9), .val none, .elems [7, 9]] := by decide +kernel

end C12
end SIM
