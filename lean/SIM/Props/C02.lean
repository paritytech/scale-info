/-
  C02 — registration is a faithful renumbering of the type graph: the entry of an interned identity
  is its definition with every reference replaced by the id of the referenced identity (nothing else
  changes), returned ids are final, and registration of (mutually) recursive types terminates.
-/
import SIM.Lemmas.Registry
namespace SIM
namespace C02
open Reg

/-- the referenced identities are interned too, so the same holds of them in turn -/
theorem register_faithful (env : Nat → Ty Nat) (fuel : Nat) (ops : List Registry.Op) (s : RegState)
    (outs : List Registry.Out) (h : Registry.run env fuel Registry.empty ops = some (s, outs))
    (t : Nat) (ht : t ∈ s.table.vec) :
    resolve (Registry.toPortable s) (idOf s t) = some ((env t).map (idOf s)) ∧ ∀ c ∈ (env t).refs, c ∈ s.table.vec := by
  have hc := run_complete (Complete.empty env) h
  have he := hc.entry ht
  exact ⟨hc.resolve he.1, he.2⟩

/-- returned ids are the ids in the final state `s` -/
theorem returned_ids (env : Nat → Ty Nat) (fuel : Nat) (ops : List Registry.Op) (s : RegState)
    (outs : List Registry.Out) (h : Registry.run env fuel Registry.empty ops = some (s, outs)) :
    outs.length = ops.length ∧ ∀ i (hi : i < ops.length) (ho : i < outs.length),
      match ops[i], outs[i] with
      | .reg t, .id n => n = idOf s t ∧ t ∈ s.table.vec
      | .regs ts, .ids ns => ns = ts.map (idOf s) ∧ ∀ t ∈ ts, t ∈ s.table.vec
      | .mip fs, .fields gs => gs = fs.map (Field.map (idOf s)) ∧ ∀ t ∈ fieldRefs fs, t ∈ s.table.vec
      | _, _ => False := by
  obtain ⟨-, -, -, hok⟩ := run_post I_empty h
  refine ⟨hok.length, fun i hi ho => ?_⟩
  -- the `match` of the statement is `OutOk s.table.vec ops[i] outs[i]` written out; the two agree on constructors
  have := hok.get i hi ho
  revert this
  generalize ops[i] = op
  generalize outs[i] = o
  cases op <;> cases o <;> exact id

/-- `map` changes nothing but references -/
theorem map_shape (t : Ty Nat) (g : Nat → Nat) : (t.map g).map (fun _ => ()) = t.map (fun _ => ()) :=
  Ty.map_comp g (fun _ => ()) t

/-- registration of (mutually) recursive types terminates -/
theorem register_total (env : Nat → Ty Nat) (N : Nat) (hclosed : ∀ t < N, ∀ c ∈ (env t).refs, c < N)
    (ops : List Registry.Op) (hroots : ∀ t ∈ histRoots ops, t < N) :
    (Registry.run env (N + 1) Registry.empty ops).isSome := by
  obtain ⟨_, _, h, -⟩ := run_total hclosed (below_empty N) hroots
  rw [h]; rfl

/-- fuel is a proof device -/
theorem fuel_irrelevant (env : Nat → Ty Nat) (f k : Nat) (ops : List Registry.Op) (r : RegState × List Registry.Out)
    (h : Registry.run env f Registry.empty ops = some r) :
    Registry.run env (f + k) Registry.empty ops = some r :=
  run_mono env (Nat.le_add_right f k) ops Registry.empty r h

end C02
end SIM
