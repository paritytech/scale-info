/-
  C08 (positional form) — the derived `Deserialize` also accepts every struct as a positional array (members in
  declaration order) and a unit variant as a one-member map `{"name": null}`; for every `Codec.Bounded` registry the
  reader accepts that form and yields the same registry.
-/
import SIM.Lemmas.JsonPos
import SIM.Props.C07
namespace SIM
namespace C08
open JsonM

theorem toRegistry_posOfRegistry (r : PortableRegistry) (h : Codec.Bounded r) :
    JsonM.toRegistry (JsonM.posOfRegistry r) = .ok r :=
  JsonM.toRegistry_posOfRegistry r h

/-- serde_json: "fewer elements in array" -/
theorem positional_surplus_rejected (spec : List Key) (l : List Json) (h : spec.length < l.length) :
    JsonM.asStruct spec (.arr l) = .error .reject := by
  simp only [asStruct, zipKeys_eq, if_neg (Nat.not_le.2 h)]

theorem positional_prefix (spec : List Key) (l : List Json) (h : l.length ≤ spec.length) :
    JsonM.asStruct spec (.arr l) = .ok ((spec.take l.length).zip l) := by
  simp only [asStruct, zipKeys_eq, if_pos h]

example : toRegistry (posOfRegistry C07.sample) = .ok C07.sample := toRegistry_posOfRegistry C07.sample C07.sample_bounded

example : posOfRegistry C07.sample ≠ ofRegistry C07.sample := by
  simp [posOfRegistry, ofRegistry]

end C08
end SIM
