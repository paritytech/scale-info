/-
  SIM.Lemmas.ValueD — values of derived and built-in types are well typed against a registry that describes them faithfully
  (`FaithfulD`): one induction over `ValOfD`, from one lemma per shape of definition (sequence, struct, variant, alias).
  Built-in types alone (`ValOf`, `Faithful`) are the case of no declarations.
-/
import SIM.Lemmas.Value
import SIM.Lemmas.DeriveDef
import SIM.Spec.TypingD
import SIM.Lemmas.Impls
namespace SIM
namespace Value
open Spec Impls Derive

theorem enumFrom_getElem? {α} : ∀ (l : List α) (k i : Nat), (enumFrom k l)[i]? = l[i]?.map (k + i, ·)
  | [], _, _ => rfl
  | _ :: _, _, 0 => rfl
  | _ :: l, k, i + 1 => by
    rw [enumFrom, List.getElem?_cons_succ, List.getElem?_cons_succ, enumFrom_getElem? l (k + 1) i, Nat.add_right_comm]; rfl

theorem find?_of_nodup_key {α} (key : α → Nat) : ∀ (l : List α) (x : α), (l.map key).Nodup → x ∈ l →
    l.find? (fun y => key y == key x) = some x
  | a :: l, x, nd, hx => by
    rw [List.map_cons, List.nodup_cons] at nd
    rcases List.mem_cons.1 hx with rfl | hx
    · exact List.find?_cons_of_pos (beq_self_eq_true _)
    · rw [List.find?_cons_of_neg fun he => nd.1 (by rw [eq_of_beq he]; exact List.mem_map_of_mem hx)]
      exact find?_of_nodup_key key l x nd.2 hx

/-- the members `push_field` / `TypeDefTuple::new` keep -/
abbrev kept (ts : List TyExpr) : List TyExpr := ts.filter (fun t => !isPhantom t)

theorem pushed_uf (ts : List TyExpr) : pushed (ts.map uf) = (kept ts).map uf := by
  simp only [pushed, List.filter_map]; rfl

theorem kept_cons {t : TyExpr} (ts : List TyExpr) (h : isPhantom t = false) : kept (t :: ts) = t :: kept ts := by
  simp only [List.filter_cons, h, Bool.not_false, ↓reduceIte]

theorem kept_cons_phantom {t : TyExpr} (ts : List TyExpr) (h : isPhantom t = true) : kept (t :: ts) = kept ts := by
  simp only [List.filter_cons, h, Bool.not_true, Bool.false_eq_true, ↓reduceIte]

theorem fieldsTy_unnamed {reg : PortableRegistry} (idOf : TyExpr → Nat) : ∀ (ts : List TyExpr) (vs : List Val),
    ElemsTy reg (ts.map idOf) vs → FieldsTy reg ((ts.map uf).map (Field.map idOf)) (vs.map fun v => (none, v))
  | [], _, .nil => .nil
  | t :: ts, _, .cons hv h => .cons hv (fieldsTy_unnamed idOf ts _ h)

theorem typeInfoD_of_identity_eq (docs : Bool) (env : TyExpr → Option Decl) {s t : TyExpr} (h : identity s = identity t) :
    typeInfoD docs env s = typeInfoD docs env t := by
  unfold typeInfoD; rw [h]

theorem typeInfoD_none (docs : Bool) (t : TyExpr) : typeInfoD docs (fun _ => none) t = typeInfo docs t := by
  rw [typeInfo_of_aliasEq docs (aliasEq_identity t)]
  unfold typeInfoD
  split
  · rename_i h; rw [h]; rfl
  · rfl

section Typed

variable {docs : Bool} {env : TyExpr → Option Decl} {S : TyExpr → Prop} {reg : PortableRegistry} {idOf : TyExpr → Nat}

/-- `t` is described in the registry at `idOf t`: some member of `S` declares the same identity (the transparent
    wrappers `Box<T>`, `&T`, … share it with `T`), hence the same id and the same `type_info` -/
def DescD (S : TyExpr → Prop) (t : TyExpr) : Prop := ∃ s, S s ∧ identity s = identity t

theorem DescD.of {t : TyExpr} (h : S t) : DescD S t := ⟨t, h, rfl⟩

theorem DescD.info (hf : FaithfulD docs env S reg idOf) {t : TyExpr} (hd : DescD S t) {ty : Ty TyExpr}
    (hty : typeInfoD docs env t = some ty) :
    resolve reg (idOf t) = some (ty.map idOf) ∧ ∀ r ∈ ty.refs, DescD S r := by
  obtain ⟨s, hs, hid⟩ := hd
  rw [← typeInfoD_of_identity_eq docs env hid] at hty
  refine ⟨?_, fun r hr => DescD.of (hf.closed s ty hs hty r hr)⟩
  rw [hf.ident t, ← hid, ← hf.ident s]; exact hf.res s ty hs hty

theorem DescD.res (hf : FaithfulD docs env S reg idOf) {t : TyExpr} (hd : DescD S t) {ty : Ty TyExpr}
    (hty : typeInfoD docs env t = some ty) : resolve reg (idOf t) = some (ty.map idOf) := (hd.info hf hty).1

theorem DescD.ref (hf : FaithfulD docs env S reg idOf) {t r : TyExpr} (hd : DescD S t) {ty : Ty TyExpr}
    (hty : typeInfoD docs env t = some ty) (hr : r ∈ ty.def_.refs) : DescD S r :=
  (hd.info hf hty).2 r (List.mem_append_right _ hr)

theorem DescD.adt (hf : FaithfulD docs env S reg idOf) {n : Nat} {a : TyExpr} (hd : DescD S (.adt n a)) : S (.adt n a) := by
  obtain ⟨s, hs, hid⟩ := hd
  have := hf.idClosed s hs
  rwa [hid] at this

theorem DescD.decl (hf : FaithfulD docs env S reg idOf) {n : Nat} {a : TyExpr} {d : Decl} (hd : DescD S (.adt n a))
    (henv : env (.adt n a) = some d) :
    DistinctIdx d ∧ ∃ ty, typeInfoD docs env (.adt n a) = some ty ∧ Derive.typeInfo docs d = some ty := by
  obtain ⟨hdist, hsome⟩ := hf.decls n a d (hd.adt hf) henv
  obtain ⟨ty, hty⟩ := Option.isSome_iff_exists.1 hsome
  refine ⟨hdist, ty, ?_, hty⟩
  show (env (.adt n a)).bind (Derive.typeInfo docs) = some ty
  rw [henv]; exact hty

theorem DescD.alias (hf : FaithfulD docs env S reg idOf) {t' t : TyExpr} {v : Val}
    (ih : DescD S t → HasTy reg (idOf t) v) (hid : identity t' = identity t) (hd : DescD S t') : HasTy reg (idOf t') v := by
  obtain ⟨s, hs, hid'⟩ := hd
  rw [hf.ident t', hid, ← hf.ident t]
  exact ih ⟨s, hs, hid'.trans hid⟩

theorem hasTy_uint (hf : FaithfulD docs env S reg idOf) (w : W) (n : Nat) (hn : n < 2 ^ w.bits) (hd : DescD S (.uint w)) :
    HasTy reg (idOf (.uint w)) (.uint w.bits n) :=
  .uint (hd.res hf rfl) rfl (primBits_uint w) hn

theorem hasTy_sint (hf : FaithfulD docs env S reg idOf) (w : W) (z : Int)
    (hlo : -(2 ^ (w.bits - 1) : Int) ≤ z) (hhi : z < (2 ^ (w.bits - 1) : Int)) (hd : DescD S (.sint w)) :
    HasTy reg (idOf (.sint w)) (.sint w.bits z) :=
  .sint (hd.res hf rfl) rfl (primBits_sint w) hlo hhi

theorem hasTy_compact (hf : FaithfulD docs env S reg idOf) (w : W) (n : Nat) (hn : n < 2 ^ w.bits)
    (hd : DescD S (.compact (.uint w))) : HasTy reg (idOf (.compact (.uint w))) (.compact w.bits n) :=
  .compact (hd.res hf rfl) rfl (DescD.res hf (hd.ref hf rfl (.head _)) rfl) rfl (primBits_uint w) w.bits_le hn

theorem hasTy_seq (hf : FaithfulD docs env S reg idOf) {t e : TyExpr} {vs : List Val}
    (hty : typeInfoD docs env t = some (Build.ofDef (.sequence e))) (hlen : vs.length < 4294967296)
    (ih : ∀ v, v ∈ vs → DescD S e → HasTy reg (idOf e) v) (hd : DescD S t) : HasTy reg (idOf t) (.seq vs) :=
  .seq (hd.res hf hty) rfl hlen fun v hv => ih v hv (hd.ref hf hty (.head _))

theorem hasTy_struct (hf : FaithfulD docs env S reg idOf) {t : TyExpr} {ty : Ty TyExpr} {fs : List (Field TyExpr)}
    {vs : List (Option Str × Val)} (hty : typeInfoD docs env t = some ty) (hdef : ty.def_ = .composite fs)
    (ih : (∀ f, f ∈ fs → DescD S f.ty) → FieldsTy reg (fs.map (Field.map idOf)) vs) (hd : DescD S t) :
    HasTy reg (idOf t) (.composite vs) :=
  .composite (hd.res hf hty) (by show ty.def_.map idOf = _; rw [hdef]; rfl)
    (ih fun f hm => hd.ref hf hty (by rw [hdef]; exact List.mem_map_of_mem hm))

theorem fieldsTy_kept (ts : List TyExpr) (vs : List Val)
    (ih : (∀ r, r ∈ kept ts → DescD S r) → ElemsTy reg ((kept ts).map idOf) vs) :
    (∀ f, f ∈ pushed (ts.map uf) → DescD S f.ty) →
      FieldsTy reg ((pushed (ts.map uf)).map (Field.map idOf)) (vs.map fun v => (none, v)) := by
  rw [pushed_uf]
  exact fun h => fieldsTy_unnamed idOf _ _ (ih fun r hr => h (uf r) (List.mem_map_of_mem hr))

theorem elems_one {x : TyExpr} {v : Val} (hx : isPhantom x = false) (h : DescD S x → HasTy reg (idOf x) v) :
    (∀ r, r ∈ kept [x] → DescD S r) → ElemsTy reg ((kept [x]).map idOf) [v] := by
  rw [kept_cons [] hx]
  exact fun hr => .cons (h (hr x (.head _))) .nil

theorem hasTy_variant (hf : FaithfulD docs env S reg idOf) {t : TyExpr} {ty : Ty TyExpr} {vars : List (Variant TyExpr)}
    {x : Variant TyExpr} {vs : List (Option Str × Val)} (hty : typeInfoD docs env t = some ty)
    (hdef : ty.def_ = .variant vars) (hfind : vars.find? (fun y => y.index == x.index) = some x) (hidx : x.index < 256)
    (ih : (∀ f, f ∈ x.fields → DescD S f.ty) → FieldsTy reg (x.fields.map (Field.map idOf)) vs) (hd : DescD S t) :
    HasTy reg (idOf t) (.variant x.name x.index vs) := by
  refine .variant (v := Variant.map idOf x) (hd.res hf hty) (by show ty.def_.map idOf = _; rw [hdef]; rfl) ?_ hidx
    (ih fun f hm => hd.ref hf hty ?_)
  · rw [List.find?_map]
    exact (congrArg (Option.map (Variant.map idOf)) hfind : _)
  · rw [hdef]
    exact List.mem_flatMap.2 ⟨x, List.mem_of_find?_eq_some hfind, List.mem_map_of_mem hm⟩

theorem hasTy_struct2 (hf : FaithfulD docs env S reg idOf) {t : TyExpr} {p : List Str} {ps : List (TypeParam TyExpr)}
    {n1 n2 tn1 tn2 : Option Str} {t1 t2 : TyExpr} {d1 d2 : List Str} {a b : Val}
    (hty : typeInfoD docs env t = some (mk p ps (.composite (pushed [⟨n1, t1, tn1, d1⟩, ⟨n2, t2, tn2, d2⟩]))))
    (h1 : isPhantom t1 = false) (h2 : isPhantom t2 = false)
    (ha : DescD S t1 → HasTy reg (idOf t1) a) (hb : DescD S t2 → HasTy reg (idOf t2) b) :
    DescD S t → HasTy reg (idOf t) (.composite [(n1, a), (n2, b)]) := by
  have e : pushed [⟨n1, t1, tn1, d1⟩, ⟨n2, t2, tn2, d2⟩] = [⟨n1, t1, tn1, d1⟩, ⟨n2, t2, tn2, d2⟩] := by
    simp [pushed, h1, h2]
  rw [e] at hty
  exact hasTy_struct hf hty rfl fun h =>
    .cons (ha (h _ (.head _))) (.cons (hb (h _ (.tail _ (.head _)))) .nil)

theorem derived_typed_aux (hf : FaithfulD docs env S reg idOf) (t : TyExpr) (v : Val) (hv : ValOfD env t v) :
    DescD S t → HasTy reg (idOf t) v := by
  refine ValOfD.rec (env := env)
    (motive_2 := fun ts vs _ => (∀ r, r ∈ kept ts → DescD S r) → ElemsTy reg ((kept ts).map idOf) vs)
    (motive_3 := fun fs vs _ => ∀ c : Capture, (∀ m, m ∈ membersExpected cleanTypeString docs c fs → DescD S m.ty) →
      FieldsTy reg ((membersExpected cleanTypeString docs c fs).map (Field.map idOf)) vs)
    ?bool ?uint ?sint ?string ?str ?array ?tuple0 ?tuple ?slice ?vec ?vecDeque ?none ?some ?ok ?err
    ?box_ ?rc ?arc ?ref_ ?refMut ?cow ?btreeMap ?btreeSet ?binaryHeap ?compact ?range ?rangeIncl
    ?nonZeroU ?nonZeroI ?duration ?phantom ?bitVec ?adtStruct ?adtEnum ?mnil ?mskip ?mcons
    ?fnil ?fskip ?fphantom ?fplain ?fcompact hv
  case bool => exact fun b hd => .bool (hd.res hf rfl) rfl
  case uint => exact hasTy_uint hf
  case sint => exact hasTy_sint hf
  case string | str => exact fun s hs hd => .str (hd.res hf rfl) rfl hs
  case array =>
    exact fun hlen hn _ ih hd => .array (hd.res hf rfl) rfl (by rw [hlen, Nat.mod_eq_of_lt hn])
      fun v hv => ih v hv (hd.ref hf rfl (.head _))
  case tuple0 => exact fun hd => .tuple (hd.res hf rfl) rfl .nil
  case tuple => exact fun _ ih hd => .tuple (hd.res hf rfl) rfl (ih fun r hr => hd.ref hf rfl hr)
  case slice | vec | vecDeque => exact fun hlen _ ih => hasTy_seq hf rfl hlen ih
  case none =>
    exact fun t => hasTy_variant hf (x := { name := sNone, fields := [], index := 0, docs := [] }) rfl rfl rfl
      (by decide : 0 < 256) fun _ => .nil
  case some =>
    exact fun {t vs} _ ih => hasTy_variant hf (x := { name := sSome, fields := pushed [uf t], index := 1, docs := [] })
      rfl rfl rfl (by decide : 1 < 256) (fieldsTy_kept [t] vs ih)
  case ok =>
    exact fun {t e vs} _ ih => hasTy_variant hf (x := { name := sOk, fields := pushed [uf t], index := 0, docs := [] })
      rfl rfl rfl (by decide : 0 < 256) (fieldsTy_kept [t] vs ih)
  case err =>
    exact fun {t e vs} _ ih => hasTy_variant hf (x := { name := sErr, fields := pushed [uf e], index := 1, docs := [] })
      rfl rfl rfl (by decide : 1 < 256) (fieldsTy_kept [e] vs ih)
  case box_ | rc | arc | ref_ | refMut => exact fun _ ih => DescD.alias hf ih rfl
  case cow => exact fun {t vs} _ ih => hasTy_struct hf rfl rfl (fieldsTy_kept [t] vs ih)
  case btreeMap | btreeSet | binaryHeap =>
    exact fun hlen _ ih => hasTy_struct hf rfl rfl
      (fieldsTy_kept [_] [_] (elems_one (isPhantom_slice _) (hasTy_seq hf rfl hlen ih)))
  case compact => exact hasTy_compact hf
  case range | rangeIncl => exact fun _ _ hph iha ihb => hasTy_struct2 hf rfl hph hph iha ihb
  case nonZeroU =>
    exact fun w n hn => hasTy_struct hf rfl rfl (fieldsTy_kept [_] [_] (elems_one (isPhantom_uint w) (hasTy_uint hf w n hn)))
  case nonZeroI =>
    exact fun w z hlo hhi => hasTy_struct hf rfl rfl
      (fieldsTy_kept [_] [_] (elems_one (isPhantom_sint w) (hasTy_sint hf w z hlo hhi)))
  case duration =>
    exact fun s n hs hn => hasTy_struct2 hf rfl (isPhantom_uint _) (isPhantom_uint _)
      (hasTy_uint hf .w64 s hs) (hasTy_uint hf .w32 n hn)
  case phantom => exact fun t hd => .composite (hd.res hf rfl) rfl .nil
  case bitVec =>
    intro w msb bs hw hlen hd
    have hu : DescD S (.uint w) := hd.ref hf rfl (.head _)
    have ho : DescD S (if msb then .msb0 else .lsb0) := hd.ref hf rfl (.tail _ (.head _))
    refine .bits (hd.res hf rfl) rfl (w := w.bits) (msb := msb) ?_ ?_ hlen
    · simp only [storeWidth, hu.res hf rfl]
      cases w with
      | w128 => exact absurd rfl hw
      | _ => rfl
    · cases msb
      · simp only [Bool.false_eq_true, if_false, orderMsb, DescD.res hf (t := .lsb0) ho rfl]; rfl
      · simp only [if_true, orderMsb, DescD.res hf (t := .msb0) ho rfl]; rfl
  case adtStruct =>
    intro n a d s vs henv hbody _ ih hd
    obtain ⟨-, ty, hty, hd'⟩ := hd.decl hf henv
    have hdef := typeInfo_def docs d ty hd'
    rw [hbody] at hdef
    exact hasTy_struct hf hty hdef (ih d.capture) hd
  case adtEnum =>
    intro n a d vars i v vs henv hbody hi _ ih hd
    obtain ⟨hdist, ty, hty, hd'⟩ := hd.decl hf henv
    have hdef := typeInfo_def docs d ty hd'
    unfold DistinctIdx at hdist
    rw [hbody] at hdef hdist
    -- the variant found under the index byte is the declared one: the indices are pairwise distinct
    have hm : (i, v) ∈ enumFrom 0 (vars.filter (fun x => !x.skip)) :=
      List.mem_of_getElem? (by rw [enumFrom_getElem?, hi, Nat.zero_add]; rfl)
    refine hasTy_variant hf (x := variantExp cleanTypeString docs d.capture (i, v)) hty hdef ?_
      (Nat.mod_lt _ (by decide)) (ih d.capture) hd
    rw [variantsExpected_eq, List.find?_map]
    exact congrArg (Option.map _) (find?_of_nodup_key (fun iv : Nat × VariantD => variantIndex iv.2 iv.1) _ (i, v) hdist hm)
  case mnil => exact fun _ => .nil
  case mskip =>
    intro t ts vs hph _ ih
    rw [kept_cons_phantom ts hph]
    exact ih
  case mcons =>
    intro t ts v vs hph _ _ ihv ih
    rw [kept_cons ts hph]
    exact fun h => .cons (ihv (h t (.head _))) (ih fun r hr => h r (.tail _ hr))
  case fnil => exact fun c _ => .nil
  case fskip =>
    intro f fs vs hs _ ih c
    rw [membersExpected_drop _ _ c f fs (.inl hs)]
    exact ih c
  case fphantom =>
    intro f fs vs _ hc hp _ ih c
    rw [membersExpected_drop _ _ c f fs (.inr (by rw [memberTy_plain hc]; exact hp))]
    exact ih c
  case fplain =>
    intro f fs v vs hs hc _ hp _ _ ihv ih c
    have e := memberTy_plain hc
    rw [membersExpected_keep _ _ c f fs hs (by rw [e]; exact hp)]
    refine fun h => .cons (f := Field.map idOf (fieldExp cleanTypeString docs c f)) ?_ (ih c fun m hm => h m (.tail _ hm))
    have hd : DescD S (memberTy f) := h _ (.head _)
    show HasTy reg (idOf (memberTy f)) v
    rw [e] at hd ⊢
    exact ihv hd
  case fcompact =>
    intro f fs w n vs hs hc hty hn _ ih c
    have e : memberTy f = .compact (.uint w) := by rw [memberTy_compact hc, hty]
    rw [membersExpected_keep _ _ c f fs hs (by rw [e]; rfl)]
    refine fun h => .cons (f := Field.map idOf (fieldExp cleanTypeString docs c f)) ?_ (ih c fun m hm => h m (.tail _ hm))
    have hd : DescD S (memberTy f) := h _ (.head _)
    show HasTy reg (idOf (memberTy f)) _
    rw [e] at hd ⊢
    exact hasTy_compact hf w n hn hd

/-- `ValOfD` has the constructors of `ValOf` -/
theorem _root_.SIM.Spec.ValOf.toD (env : TyExpr → Option Decl) {t : TyExpr} {v : Val} (h : ValOf t v) : ValOfD env t v := by
  refine ValOf.rec (motive_2 := fun ts vs _ => MembersOfD env ts vs)
    ?_ ?_ ?_ ?_ ?_ ?_ ?_ ?_ ?_ ?_ ?_ ?_ ?_ ?_ ?_ ?_ ?_ ?_ ?_ ?_ ?_ ?_ ?_ ?_ ?_ ?_ ?_ ?_ ?_ ?_ ?_ ?_
    .nil (fun hp _ ih => .skip hp ih) (fun hp _ _ ihv ih => .cons hp ihv ih) h
  all_goals intros; constructor <;> assumption

theorem _root_.SIM.Spec.Faithful.toD (hf : Faithful docs S reg idOf) : FaithfulD docs (fun _ => none) (DescD S) reg idOf where
  ident := hf.ident
  idClosed := fun t ⟨s, hs, e⟩ => ⟨s, hs, e.trans (identity_of_aliasEq (aliasEq_identity t))⟩
  res := fun t ty ⟨s, hs, e⟩ hty => by
    rw [← typeInfoD_of_identity_eq docs _ e, typeInfoD_none] at hty
    rw [hf.ident t, ← e, ← hf.ident s]
    exact hf.res s ty hs hty
  closed := fun t ty ⟨s, hs, e⟩ hty r hr => by
    rw [← typeInfoD_of_identity_eq docs _ e, typeInfoD_none] at hty
    exact .of (hf.closed s ty hs hty r hr)
  decls := fun _ _ _ _ h => nomatch h

end Typed
end Value
end SIM
