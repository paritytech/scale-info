/-
  C06 (tie to the source by translation): the `#[codec(index = N)]` attributes of `TypeDef` and `TypeDefPrimitive`, the
  declaration order of the members of every wire struct and their `#[codec(compact)]` markers — re-extracted from
  /repo/src on every run (SIM.Extracted.Tags) — are the tables the layout model is written from (SIM.Expected). Of the
  member table only the compact markers are stated; that `Codec.enc*` write the members in its order is by reading.
-/
import SIM.Extracted.Tags
import SIM.Model.TagsExpected
import SIM.Model.Json
import SIM.Props.C06
namespace SIM
namespace C06
open Codec

theorem extracted_tags_ok :
    Extracted.defTags = Expected.defTags ∧ Extracted.primTags = Expected.primTags ∧
    Extracted.structMembers = Expected.structMembers := ⟨rfl, rfl, rfl⟩

theorem primTags_at (p : Prim) : Expected.primTags[primTag p]? = some (JsonM.primName p, primTag p) := by
  cases p <;> rfl

/-- the source gives variant `p` (lower-cased name) the index `primTag p` -/
theorem prim_tags_match (p : Prim) : (JsonM.primName p, primTag p) ∈ Expected.primTags :=
  List.mem_of_getElem? (primTags_at p)

/-- and there is nothing else in the source's table -/
theorem prim_tags_complete : Expected.primTags.length = 15 ∧ (Expected.primTags.map (·.2)) = List.range 15 := by decide

/-- the source's name of the variant of `TypeDef`, in lower case -/
def tagName : TypeDef Nat → Str
  | .composite _ => [99, 111, 109, 112, 111, 115, 105, 116, 101]
  | .variant _ => [118, 97, 114, 105, 97, 110, 116]
  | .sequence _ => [115, 101, 113, 117, 101, 110, 99, 101]
  | .array _ _ => [97, 114, 114, 97, 121]
  | .tuple _ => [116, 117, 112, 108, 101]
  | .primitive _ => [112, 114, 105, 109, 105, 116, 105, 118, 101]
  | .compact _ => [99, 111, 109, 112, 97, 99, 116]
  | .bitSequence _ _ => [98, 105, 116, 115, 101, 113, 117, 101, 110, 99, 101]

theorem defTags_at (d : TypeDef Nat) : Expected.defTags[defTag d]? = some (tagName d, defTag d) := by
  cases d <;> rfl

/-- the first byte of a definition (`def_tag_first_byte`) is the index the source gives its variant -/
theorem def_tags_match (d : TypeDef Nat) : (tagName d, defTag d) ∈ Expected.defTags :=
  List.mem_of_getElem? (defTags_at d)

theorem def_tags_complete : Expected.defTags.length = 8 ∧ (Expected.defTags.map (·.2)) = List.range 8 := by decide

/-- the ids that travel compact on the wire are exactly `PortableType.id` and `UntrackedSymbol.id` -/
theorem compact_members :
    (Expected.structMembers.flatMap (fun s => (s.2.filter (·.2)).map (fun m => (s.1, m.1)))) =
      [([80, 111, 114, 116, 97, 98, 108, 101, 84, 121, 112, 101], [105, 100]),
       ([85, 110, 116, 114, 97, 99, 107, 101, 100, 83, 121, 109, 98, 111, 108], [105, 100])] := by decide

end C06
end SIM
