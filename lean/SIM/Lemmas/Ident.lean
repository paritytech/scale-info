/-
  SIM.Lemmas.Ident — reading of the atoms of the extracted identifier rule.
-/
import SIM.Model.Path
namespace SIM
namespace C18
open PathM

def aEq : Str := [101, 113]   -- `eq`
def aLower : Str := [105, 115, 95, 97, 115, 99, 105, 105, 95, 108, 111, 119, 101, 114, 99, 97, 115, 101]   -- `is_ascii_lowercase`
def aUpper : Str := [105, 115, 95, 97, 115, 99, 105, 105, 95, 117, 112, 112, 101, 114, 99, 97, 115, 101]   -- `is_ascii_uppercase`
def aDigit : Str := [105, 115, 95, 97, 115, 99, 105, 105, 95, 100, 105, 103, 105, 116]   -- `is_ascii_digit`

/-- reading of one disjunct on a byte: `x == b'c'`, or one of Rust's `u8::is_ascii_*` classes; an atom the reading does not know
    is false -/
def atomHolds (a : Str × Nat) (b : UInt8) : Bool :=
  if a.1 == aEq then b.toNat == a.2
  else if a.1 == aLower then isLower b
  else if a.1 == aUpper then isUpper b
  else if a.1 == aDigit then isDigit b
  else false

theorem atom_eq (n : Nat) (b : UInt8) : atomHolds (aEq, n) b = (b.toNat == n) := rfl
theorem atom_lower (n : Nat) (b : UInt8) : atomHolds (aLower, n) b = isLower b := rfl
theorem atom_upper (n : Nat) (b : UInt8) : atomHolds (aUpper, n) b = isUpper b := rfl
theorem atom_digit (n : Nat) (b : UInt8) : atomHolds (aDigit, n) b = isDigit b := rfl
theorem beq_eq_toNat_beq (a b : UInt8) : (a == b) = (a.toNat == b.toNat) := by
  rw [Bool.eq_iff_iff]; simp [← UInt8.toNat_inj]

end C18
end SIM
