/-
  C07 — SCALE round trip of a portable registry, for every registry the wire format can carry (`Bounded`: ids and lengths
  are `u32`s, variant indices `u8`s, strings UTF-8; the Rust types also allow collections longer than `u32::MAX`, on which
  `encode` panics).
-/
import SIM.Lemmas.Codec
namespace SIM
namespace C07
open Codec

theorem decode_encode (r : PortableRegistry) (h : Bounded r) (rest : Bytes) :
    decode (encode r ++ rest) = some (r, rest) :=
  good_registry.rt r rest h

theorem decode_encode_exact (r : PortableRegistry) (h : Bounded r) : decode (encode r) = some (r, []) := by
  have := decode_encode r h []
  rwa [List.append_nil] at this

theorem encode_injective (a b : PortableRegistry) (ha : Bounded a) (hb : Bounded b)
    (h : encode a = encode b) : a = b :=
  good_registry.inj a b ha hb h

def plain (id : Nat) (d : TypeDef Nat) : PType :=
  { id := id, ty := { path := [], params := [], def_ := d, docs := [] } }

def sampleField : Field Nat := { name := some [117, 56], ty := 0, typeName := none, docs := [[]] }
def sampleField' : Field Nat := { name := none, ty := 1, typeName := some [], docs := [] }
def sampleVariant : Variant Nat := { name := [], fields := [sampleField'], index := 255, docs := [] }
def sampleParams : List (TypeParam Nat) := [{ name := [], ty := some 0 }, { name := [], ty := none }]

/-- every kind of definition, every compact size class (0, 100, 70000, 1073741824), the largest `u32` and `u8`, present and
    absent optional members, empty and non-empty lists, a two-byte UTF-8 character; used by C08, C14 and C19 too -/
def sample : PortableRegistry :=
  [ plain 0 (.primitive .u8),
    { id := 1, ty := { path := [[117, 56], [0xC3, 0xA9]], params := sampleParams, def_ := .composite [sampleField], docs := [[]] } },
    plain 2 (.variant [sampleVariant]),
    plain 3 (.sequence 70000),
    plain 4 (.array 4294967295 2),
    plain 5 (.tuple [0, 1, 1073741824]),
    plain 6 (.compact 100),
    plain 7 (.bitSequence 0 3) ]

theorem sample_bounded : Bounded sample := by decide

example : Bounded sample := sample_bounded

example : decode (encode sample) = some (sample, []) := decode_encode_exact sample sample_bounded

end C07
end SIM
