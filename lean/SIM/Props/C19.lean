/-
  C19 — draft-07 validation (`SchemaM.validates`) of `JsonM.ofRegistry r` against the generated JSON Schema succeeds for
  EVERY registry `r`. `Expected.schemaDefs` / `Expected.schemaRoot` are a committed copy of the schema that
  `schema_for!(PortableRegistry)` generates (translated mechanically); `Extracted.*` is the same text regenerated from the
  real code on every run.
-/
import SIM.Lemmas.Schema
import SIM.Extracted.Schema
import SIM.Props.C07
namespace SIM
namespace C19
open JsonM SchemaM

theorem extracted_is_expected :
    Extracted.schemaDefs = Expected.schemaDefs ∧ Extracted.schemaRoot = Expected.schemaRoot :=
  ⟨rfl, rfl⟩

theorem schema_accepts (r : PortableRegistry) :
    validates Expected.schemaDefs SchemaM.fuel Expected.schemaRoot (ofRegistry r) = true :=
  acc_root 10 r  -- `SchemaM.fuel` is 32 = 10 + 22

theorem schema_accepts_extracted (r : PortableRegistry) :
    validates Extracted.schemaDefs SchemaM.fuel Extracted.schemaRoot (ofRegistry r) = true := by
  rw [extracted_is_expected.1, extracted_is_expected.2]
  exact schema_accepts r

theorem schema_accepts_fuel (f : Nat) (hf : 22 ≤ f) (r : PortableRegistry) :
    validates Expected.schemaDefs f Expected.schemaRoot (ofRegistry r) = true :=
  Nat.sub_add_cancel hf ▸ acc_root (f - 22) r

theorem portableType_accepts (p : PType) :
    validates Expected.schemaDefs SchemaM.fuel Expected.def_PortableType (ofPType p) = true :=
  acc_PortableType 13 p  -- 32 = 13 + 19

theorem typeDef_accepts (d : TypeDef Nat) :
    validates Expected.schemaDefs SchemaM.fuel Expected.def_TypeDef_for_PortableForm (ofTypeDef d) = true :=
  acc_TypeDef 19 d  -- 32 = 19 + 13

example : validates Expected.schemaDefs SchemaM.fuel Expected.schemaRoot (ofRegistry C07.sample) = true :=
  schema_accepts _

/-- the required `types` member is missing -/
example : validates Expected.schemaDefs SchemaM.fuel Expected.schemaRoot (.obj []) = false := by decide

/-- an `id` that is not a number -/
example : validates Expected.schemaDefs SchemaM.fuel Expected.schemaRoot
    (.obj [(.types, .arr [.obj [(.id, .str []), (.type_, ofTy (C07.plain 0 (.primitive .u8)).ty)]])]) = false := by
  decide +kernel

/-- two tags at once: rejected by `additionalProperties: false` -/
example : validates Expected.schemaDefs SchemaM.fuel Expected.def_TypeDef_for_PortableForm
    (.obj [(.sequence, .obj [(.type_, .num 0)]), (.compact, .obj [(.type_, .num 0)])]) = false := by
  decide +kernel

end C19
end SIM
