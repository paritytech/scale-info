/-
  SIM.Lemmas.Interner — a duplicate-free list as a table: on it `idxOf` and `[·]?` are inverse to each other, and stay so
  when the list is extended at the end or renamed injectively (`namespace Reg`: the registry proofs use nothing else about
  positions).  The interner's `map` and `vec` describe one such table (`Interner.Inv`); `Builder.finish` lists it entry by
  entry; the specification `DL.intern` keeps it duplicate-free.
-/
import SIM.Model.Interner
import SIM.Model.Builder
namespace SIM

namespace Reg
section
variable {α β : Type} [BEq α] [LawfulBEq α]

theorem getElem?_idxOf {l : List α} {x : α} (hx : x ∈ l) : l[l.idxOf x]? = some x :=
  List.getElem?_eq_some_iff.2 ⟨List.idxOf_lt_length_of_mem hx, List.getElem_idxOf _⟩

theorem getElem?_eq_some_iff_idxOf {l : List α} (hn : l.Nodup) {n : Nat} {o : α} :
    l[n]? = some o ↔ o ∈ l ∧ l.idxOf o = n := by
  constructor
  · intro h
    obtain ⟨hlt, rfl⟩ := List.getElem?_eq_some_iff.1 h
    exact ⟨List.getElem_mem hlt, hn.idxOf_getElem n hlt⟩
  · rintro ⟨ho, rfl⟩
    exact getElem?_idxOf ho

theorem idxOf_inj {l : List α} {x y : α} (hx : x ∈ l) (hy : y ∈ l) (h : l.idxOf x = l.idxOf y) : x = y :=
  Option.some.inj ((getElem?_idxOf hx).symm.trans (h ▸ getElem?_idxOf hy))

theorem map_idxOf_self {l : List α} (h : l.Nodup) : l.map l.idxOf = List.range l.length := by
  apply List.ext_getElem (by simp)
  intro i h1 h2
  rw [List.getElem_map, h.idxOf_getElem, List.getElem_range]

theorem idxOf_prefix {l l' : List α} (h : l <+: l') {x : α} (hx : x ∈ l) : l'.idxOf x = l.idxOf x := by
  obtain ⟨t, rfl⟩ := h
  simp [List.idxOf_append, hx]

omit [BEq α] [LawfulBEq α] in
theorem getElem?_prefix {l l' : List α} (h : l <+: l') {i : Nat} {x : α} (hx : l[i]? = some x) :
    l'[i]? = some x := by
  obtain ⟨t, rfl⟩ := h
  rw [List.getElem?_append_left (List.getElem?_eq_some_iff.1 hx).1]; exact hx

theorem idxOf_map_inj [BEq β] [LawfulBEq β] {g : α → β} {x : α} : ∀ {l : List α}, (∀ a ∈ l, g a = g x → a = x) →
    (l.map g).idxOf (g x) = l.idxOf x
  | [], _ => rfl
  | a :: l, h => by
    simp only [List.map_cons, List.idxOf_cons]
    by_cases e : a = x
    · simp [e]
    · have : g a ≠ g x := fun e' => e (h a (by simp) e')
      rw [beq_eq_false_iff_ne.2 e, beq_eq_false_iff_ne.2 this, cond_false, cond_false,
        idxOf_map_inj (fun b hb => h b (List.mem_cons_of_mem _ hb))]

theorem zipIdx_range (n : Nat) : (List.range n).zipIdx = (List.range n).map (fun i => (i, i)) := by
  apply List.ext_getElem (by simp)
  intro i h1 h2
  simp

theorem nodup_length_le {N : Nat} {l : List Nat} (hn : l.Nodup) (hb : ∀ x ∈ l, x < N) : l.length ≤ N := by
  simpa using hn.length_le_of_subset (l₂ := List.range N) fun x hx => List.mem_range.2 (hb x hx)

end

-- core's `List.mem_of_getElem?` and `List.IsPrefix.length_le`
theorem mem_of_getElem? {α} {l : List α} {i : Nat} {x : α} (h : l[i]? = some x) : x ∈ l :=
  List.mem_of_getElem? h

theorem prefix_length_le {α} {l l' : List α} (h : l <+: l') : l.length ≤ l'.length := h.length_le

end Reg

namespace Interner
variable {α : Type} [DecidableEq α]

/-- `map` is the inverse of `vec`: looking a value up gives its first (only) position. -/
def Inv (it : Interner α) : Prop :=
  ∀ x, mapGet it.map x = if x ∈ it.vec then some (it.vec.idxOf x) else none

theorem inv_empty : Inv (empty : Interner α) := by
  intro x; simp [empty, mapGet]

theorem mapGet_append (m : List (α × Nat)) (k : α) (v : Nat) (x : α) :
    mapGet (m ++ [(k, v)]) x = match mapGet m x with
      | some i => some i
      | none => if k = x then some v else none := by
  induction m with
  | nil => simp [mapGet]
  | cons kv rest ih =>
    simp only [List.cons_append, mapGet]
    split
    · rfl
    · exact ih

theorem internOrGet_of_mem {it : Interner α} (h : it.Inv) {x : α} (hx : x ∈ it.vec) :
    it.internOrGet x = (false, it.vec.idxOf x, it) := by
  simp [internOrGet, h x, hx]

theorem internOrGet_of_not_mem {it : Interner α} (h : it.Inv) {x : α} (hx : x ∉ it.vec) :
    it.internOrGet x =
      (true, it.vec.length, { map := it.map ++ [(x, it.vec.length)], vec := it.vec ++ [x] }) := by
  simp [internOrGet, h x, hx]

theorem Inv.push {it : Interner α} (h : it.Inv) {x : α} (hx : x ∉ it.vec) :
    Inv ({ map := it.map ++ [(x, it.vec.length)], vec := it.vec ++ [x] } : Interner α) := by
  intro y
  rw [mapGet_append, h y]
  by_cases hy : y ∈ it.vec
  · simp [hy, List.idxOf_append]
  · by_cases hxy : x = y
    · subst hxy; simp [hx, List.idxOf_append]
    · simp [hy, hxy, Ne.symm hxy]

theorem internOrGet_spec (it : Interner α) (h : Inv it) (x : α) :
    (internOrGet it x).1 = (DL.intern it.vec x).1 ∧
    (internOrGet it x).2.1 = (DL.intern it.vec x).2.1 ∧
    (internOrGet it x).2.2.vec = (DL.intern it.vec x).2.2 ∧
    Inv (internOrGet it x).2.2 := by
  by_cases hm : x ∈ it.vec
  · simp [internOrGet_of_mem h hm, DL.intern, hm, h]
  · simp [internOrGet_of_not_mem h hm, DL.intern, hm, h.push hm]

theorem get_spec (it : Interner α) (h : Inv it) (x : α) : it.get x = DL.get it.vec x := h x

omit [DecidableEq α] in
theorem resolve_spec (it : Interner α) (i : Nat) : it.resolve i = DL.resolve it.vec i := by
  unfold resolve DL.resolve
  split
  · exact (List.getElem?_eq_none ‹_›).symm
  · rfl

end Interner

namespace Builder

@[simp] theorem enumFrom_length (k : Nat) (l : List (Ty Nat)) : (enumFrom k l).length = l.length := by
  induction l generalizing k with
  | nil => rfl
  | cons t ts ih => simp [enumFrom, ih]

theorem enumFrom_getElem? (l : List (Ty Nat)) (k i : Nat) :
    (enumFrom k l)[i]? = (l[i]?).map (fun t => { id := k + i, ty := t }) := by
  induction l generalizing k i with
  | nil => simp [enumFrom]
  | cons t ts ih =>
    cases i with
    | zero => simp [enumFrom]
    | succ i => simp only [enumFrom, List.getElem?_cons_succ, ih]; congr; funext t; congr 1; omega

theorem finish_getElem? (b : Builder) (i : Nat) :
    (b.finish)[i]? = (b.types.vec[i]?).map (fun t => { id := i, ty := t }) := by
  simp [finish, Interner.elements, enumFrom_getElem?]

theorem finish_length (b : Builder) : b.finish.length = b.types.vec.length := enumFrom_length 0 _

theorem finish_getElem (b : Builder) {i : Nat} (h : i < b.finish.length) :
    ∃ t ∈ b.types.vec, b.finish[i] = { id := i, ty := t } := by
  obtain ⟨t, ht, e⟩ := Option.map_eq_some_iff.1 ((finish_getElem? b i).symm.trans (List.getElem?_eq_getElem h))
  exact ⟨t, List.mem_of_getElem? ht, e.symm⟩

end Builder

namespace DL
variable {α : Type} [DecidableEq α]

theorem intern_nodup (l : List α) (x : α) (h : l.Nodup) : (intern l x).2.2.Nodup := by
  unfold intern
  split
  · exact h
  next hx =>
    exact List.nodup_append.2 ⟨h, List.pairwise_singleton _ x, fun a ha b hb e => hx (List.mem_singleton.1 hb ▸ e ▸ ha)⟩

end DL
end SIM
