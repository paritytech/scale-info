/-
  C03glue — C02 and C03/C04 joined: the registry that `Registry.run` produces when type identities are (codes of) type
  expressions is `FaithfulD`, hence a decoder that knows only that registry reads every value back.
-/
import SIM.Lemmas.Registry
import SIM.Spec.TypingD
import SIM.Props.C16
import SIM.Props.C03
namespace SIM
namespace C03
open Spec Impls

/-- `TypeId` is an injective name of a type -/
structure Coding where
  code : TyExpr → Nat
  uncode : Nat → Option TyExpr
  uncode_code : ∀ t, uncode (code t) = some t

/-- what `envOf` gives a number that codes no type expression, or one without `type_info()` -/
def blankTy : Ty Nat := { path := [], params := [], def_ := .tuple [], docs := [] }

/-- references are coded by their declared identity: `MetaType::new::<T>()` takes the `TypeId` of `T::Identity` -/
def envOf (docs : Bool) (envD : TyExpr → Option Derive.Decl) (c : Coding) : Nat → Ty Nat := fun n =>
  match c.uncode n with
  | some t => (match typeInfoD docs envD t with
    | some ty => ty.map (fun r => c.code (identity r))
    | none => blankTy)
  | none => blankTy

def idOfExpr (c : Coding) (s : RegState) (t : TyExpr) : Nat := idOf s (c.code (identity t))

theorem blankTy_refs : blankTy.refs = [] := rfl

theorem typeInfoD_identity (docs : Bool) (envD : TyExpr → Option Derive.Decl) (t : TyExpr) :
    typeInfoD docs envD (identity t) = typeInfoD docs envD t :=
  Value.typeInfoD_of_identity_eq docs envD (C16.identity_idem t)

theorem envOf_code {docs : Bool} {envD : TyExpr → Option Derive.Decl} (c : Coding) {t : TyExpr} {ty : Ty TyExpr}
    (h : typeInfoD docs envD t = some ty) :
    envOf docs envD c (c.code (identity t)) = ty.map (fun r => c.code (identity r)) := by
  simp only [envOf, c.uncode_code, typeInfoD_identity, h]

theorem registry_faithfulD {docs : Bool} {envD : TyExpr → Option Derive.Decl} {c : Coding} {s : RegState}
    (hc : Reg.Complete (envOf docs envD c) s)
    (hdecls : ∀ n a d, c.code (.adt n a) ∈ s.table.vec → envD (.adt n a) = some d → DistinctIdx d ∧ (Derive.typeInfo docs d).isSome) :
    FaithfulD docs envD (fun t => c.code (identity t) ∈ s.table.vec) (Registry.toPortable s) (idOfExpr c s) where
  ident t := by rw [idOfExpr, idOfExpr, C16.identity_idem]
  idClosed t ht := by rwa [C16.identity_idem]
  res t ty ht hty := by
    have he := (hc.entry ht).1
    rw [envOf_code c hty, Ty.map_comp] at he
    exact hc.resolve he
  closed t ty ht hty r hr := by
    have hf := (hc.entry ht).2
    rw [envOf_code c hty, Ty.refs_map] at hf
    exact hf _ (List.mem_map_of_mem hr)
  decls := hdecls

/-- C02 + C03/C04: after `register_type` of any type expressions, a decoder that knows only the produced `PortableRegistry`
    reads every value of every root back, starting from the id `register_type` returned (`end_to_end_returned_id`) -/
theorem end_to_end (docs : Bool) (envD : TyExpr → Option Derive.Decl) (c : Coding) (fuel : Nat) (roots : List TyExpr)
    (s : RegState) (outs : List Registry.Out)
    (h : Registry.run (envOf docs envD c) fuel Registry.empty (roots.map (fun t => Registry.Op.reg (c.code (identity t)))) = some (s, outs))
    (hdecls : ∀ n a d, c.code (.adt n a) ∈ s.table.vec → envD (.adt n a) = some d → DistinctIdx d ∧ (Derive.typeInfo docs d).isSome)
    (t : TyExpr) (ht : t ∈ roots) (v : Val) (hv : ValOfD envD t v) (rest : Codec.Bytes) :
    ∃ fuel', Value.decodeVal (Registry.toPortable s) fuel' (idOfExpr c s t) (Value.encode v ++ rest) = some (v, rest) := by
  have hroot : c.code (identity t) ∈ s.table.vec :=
    (Reg.run_post Reg.I_empty h).2.2.1 _ (histRoots_map_reg _ roots ▸ List.mem_map_of_mem ht)
  exact derived_roundtrip docs envD _ _ _ (registry_faithfulD (Reg.run_complete (.empty _) h) hdecls) t v hroot hv rest

theorem end_to_end_returned_id (docs : Bool) (envD : TyExpr → Option Derive.Decl) (c : Coding) (fuel : Nat) (roots : List TyExpr)
    (s : RegState) (outs : List Registry.Out)
    (h : Registry.run (envOf docs envD c) fuel Registry.empty (roots.map (fun t => Registry.Op.reg (c.code (identity t)))) = some (s, outs)) :
    outs = roots.map (fun t => Registry.Out.id (idOfExpr c s t)) := by
  obtain ⟨-, -, -, hok⟩ := Reg.run_post Reg.I_empty h
  rw [hok.eq_map, List.map_map]
  rfl

end C03
end SIM
