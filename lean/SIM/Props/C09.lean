/-
  C09 — the `type_info()` body that `#[derive(TypeInfo)]` emits (`Derive.typeInfo`: the builder calls of derive/src/lib.rs
  run through the builder model and the path model) equals the declarative description of the declaration
  (`Spec.deriveExpected`); the clauses of the property are read off that description. Type names equal the stringified
  declared type up to spaces: the replace pairs of `clean_type_string`, re-extracted, only touch spaces.
-/
import SIM.Lemmas.Derive
import SIM.Props.C17
import SIM.Props.C18
namespace SIM
namespace C09
open Derive Spec

theorem replaceAll_spaces (s pat rep : Str) (h : stripSpaces pat = stripSpaces rep) :
    stripSpaces (replaceAll s pat rep) = stripSpaces s :=
  replaceAllFuel_spaces pat rep h _ s

theorem clean_spaces (pairs : List (Str × Str)) (h : ∀ p ∈ pairs, stripSpaces p.1 = stripSpaces p.2) (s : Str) :
    stripSpaces (cleanWith pairs s) = stripSpaces s := by
  unfold cleanWith
  induction pairs generalizing s with
  | nil => rfl
  | cons p ps ih =>
    rw [List.foldl_cons, ih (fun q hq => h q (List.mem_cons_of_mem _ hq)),
      replaceAll_spaces _ _ _ (h p (List.mem_cons_self ..))]

/-- the chain as it stands in the source today -/
theorem extracted_pairs_ok : ∀ p ∈ Extracted.cleanPairs, stripSpaces p.1 = stripSpaces p.2 := by
  decide +kernel

/-- whatever the token printer emits -/
theorem type_name_up_to_spaces (s : Str) : stripSpaces (cleanTypeString s) = stripSpaces s :=
  clean_spaces Extracted.cleanPairs extracted_pairs_ok s

theorem derive_mirrors (docs : Bool) (d : Decl) : Derive.typeInfo docs d = deriveExpected cleanTypeString docs d := by
  unfold Derive.typeInfo deriveExpected
  -- the path constructor succeeds exactly when every segment is an identifier
  rw [C18.newWithReplace_eq,
    show (PathM.splitColons [] d.modulePath ++ [d.ident]).map (PathM.replaceSeg d.replace) = pathExpected d from rfl]
  by_cases hall : (pathExpected d).all isIdent = true
  case neg => rw [if_neg hall, if_neg hall]
  case pos =>
    rw [if_pos hall, if_pos hall]
    have hdef : defExpected { docs := docs } Impls.isPhantom (term d) =
        some (match d.body with
              | .struct s => .composite (membersExpected cleanTypeString docs d.capture (shapeFields s))
              | .enum vs => .variant (variantsExpected cleanTypeString docs d.capture vs)) := by
      unfold term
      cases d.body <;> simp only [defExpected, fields_expected, variants_expected, Option.map_some]
    -- the program's two head calls set path and parameters, its tail (docs calls only) sets the docs
    show Build.run _ _ _ _ = _
    rw [C17.build_lossless, buildExpected, lastSome_tail tPathArg _ _ _ fun _ _ => rfl, lastSome_tail tParamsArg _ _ _ fun _ _ => rfl,
      docs_tail docs _ Build.TCall.free (fun _ => rfl) _ rfl, hdef]
    rfl

theorem docs_captured_iff (ds : List Str) (b : Bool) :
    capturedDocs true .default ds = ds.map stripLead ∧ capturedDocs false .default ds = [] ∧
    capturedDocs b .always ds = ds.map stripLead ∧ capturedDocs b .never ds = [] :=
  ⟨rfl, rfl, rfl, rfl⟩

theorem strip_one_space (s : Str) : stripLead (32 :: s) = s ∧ (s.head? ≠ some 32 → stripLead s = s) := by
  refine ⟨rfl, fun h => ?_⟩
  unfold stripLead
  split
  · exact absurd rfl h
  · rfl

theorem members_order (tn : Str → Str) (docs : Bool) (c : Capture) (fs : List FieldD) :
    ((membersExpected tn docs c fs).map (·.ty)).Sublist (fs.map (fun f => if f.compact then TyExpr.compact f.ty else f.ty)) := by
  unfold membersExpected
  rw [List.map_map]
  exact List.filter_sublist.map _

theorem params_order (tn : Str → Str) (docs : Bool) (d : Decl) (t : Ty TyExpr) (h : deriveExpected tn docs d = some t) :
    t.params.map (·.name) = d.params.map (·.name) ∧
    ∀ i (hi : i < d.params.length) (hj : i < t.params.length), t.params[i].ty = (if d.params[i].skipped then none else some d.params[i].arg) := by
  unfold deriveExpected at h
  split at h
  · cases h
    exact ⟨by rw [List.map_map]; rfl, fun i hi hj => by rw [List.getElem_map]⟩
  · cases h

theorem derive_never_lists_phantom (docs : Bool) (d : Decl) (t : Ty TyExpr) (h : Derive.typeInfo docs d = some t) :
    ∀ r ∈ t.def_.refs, Impls.isPhantom r = false := by
  unfold Derive.typeInfo at h
  split at h
  · cases h
  · exact C17.phantom_never_listed _ _ _ _ t h

/-- `variantIndex`: codec(index), else the discriminant, else the position among the NON-SKIPPED variants -/
theorem variant_index_after_filter (tn : Str → Str) (docs : Bool) (c : Capture) (vs : List VariantD) :
    (variantsExpected tn docs c vs).map (·.index) =
      (enumFrom 0 (vs.filter (fun v => !v.skip))).map (fun iv => variantIndex iv.2 iv.1) := by
  unfold variantsExpected
  rw [List.map_map]
  rfl

theorem member_type_name_up_to_spaces (docs : Bool) (c : Capture) (fs : List FieldD) :
    ∀ m ∈ membersExpected cleanTypeString docs c fs, ∃ f ∈ fs, f.skip = false ∧
      m.typeName.map stripSpaces = some (stripSpaces f.tyText) := by
  intro m hm
  obtain ⟨f, hf, hskip, -, rfl⟩ := mem_membersExpected.1 hm
  exact ⟨f, hf, hskip, congrArg some (type_name_up_to_spaces f.tyText)⟩

/-- `none` is the panic of the path constructor -/
theorem derive_none_iff (docs : Bool) (d : Decl) :
    Derive.typeInfo docs d = none ↔ (pathExpected d).all isIdent = false := by
  rw [derive_mirrors]
  unfold deriveExpected
  cases (pathExpected d).all isIdent <;> simp

/-- `enum E { A, #[codec(skip)] B, C }` in `my_mod`: `C` gets index 1 -/
example :
    (Derive.typeInfo true
      { ident := [69], modulePath := [109, 121, 95, 109, 111, 100], params := [], capture := .default, replace := [], docs := [],
        body := .enum [{ ident := [65], shape := .unit, skip := false, codecIndex := none, discriminant := none, docs := [] },
                       { ident := [66], shape := .unit, skip := true, codecIndex := none, discriminant := none, docs := [] },
                       { ident := [67], shape := .unit, skip := false, codecIndex := none, discriminant := none, docs := [] }] })
    = some { path := [[109, 121, 95, 109, 111, 100], [69]], params := [],
             def_ := .variant [{ name := [65], fields := [], index := 0, docs := [] },
                               { name := [67], fields := [], index := 1, docs := [] }],
             docs := [] } := by decide +kernel

example :
    (variantsExpected id true .default
      [{ ident := [65], shape := .unit, skip := true, codecIndex := none, discriminant := none, docs := [] },
       { ident := [66], shape := .unit, skip := false, codecIndex := none, discriminant := none, docs := [] },
       { ident := [67], shape := .unit, skip := false, codecIndex := some 7, discriminant := none, docs := [] },
       { ident := [68], shape := .unit, skip := false, codecIndex := none, discriminant := none, docs := [] }]).map (·.index)
    = [0, 7, 2] := by decide

/-- `stripSpaces (cleanTypeString "Vec < ( u8 , bool ) >") = "Vec<(u8,bool)>"` -/
example :
    stripSpaces (cleanTypeString [86, 101, 99, 32, 60, 32, 40, 32, 117, 56, 32, 44, 32, 98, 111, 111, 108, 32, 41, 32, 62])
      = [86, 101, 99, 60, 40, 117, 56, 44, 98, 111, 111, 108, 41, 62] := by decide +kernel

/-- `/// d` `struct S<T> { #[codec(skip)] a: u8, /// x
    b: u8, p: PhantomData<()>, #[codec(compact)] c: u8 }` with `skip_type_params(T)`, docs feature off, default capture_docs -/
example :
    Derive.typeInfo false
      { ident := [83], modulePath := [109], params := [{ name := [84], skipped := true, arg := .bool }],
        capture := .default, replace := [], docs := [[32, 100]],
        body := .struct (.named
          [{ ident := some [97], ty := .uint .w8, tyText := [117, 56], skip := true, compact := false, encodedAs := false, rename := none, docs := [] },
           { ident := some [98], ty := .uint .w8, tyText := [117, 56], skip := false, compact := false, encodedAs := false, rename := none, docs := [[32, 120]] },
           { ident := some [112], ty := .phantom .tuple0, tyText := [80], skip := false, compact := false, encodedAs := false, rename := none, docs := [] },
           { ident := some [99], ty := .uint .w8, tyText := [117, 56], skip := false, compact := true, encodedAs := false, rename := some [100], docs := [] }]) }
    = some { path := [[109], [83]], params := [{ name := [84], ty := none }],
             def_ := .composite [{ name := some [98], ty := .uint .w8, typeName := some [117, 56], docs := [] },
                                 { name := some [100], ty := .compact (.uint .w8), typeName := some [117, 56], docs := [] }],
             docs := [] } := by decide +kernel

/-- a segment that is not an identifier: the path constructor panics -/
example :
    Derive.typeInfo true
      { ident := [49], modulePath := [109], params := [], capture := .default, replace := [], docs := [], body := .struct .unit }
    = none := by decide

end C09
end SIM
