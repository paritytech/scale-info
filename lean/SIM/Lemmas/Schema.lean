/-
  SIM.Lemmas.Schema — names for the node shapes schemars emits, `SchemaM.validates` one level down as a conjunction of named
  keyword checks, what that is on each shape, and one acceptance lemma per definition of `Expected.schemaDefs`, bottom-up.
  The fuel is `f + k` in each statement, `k` the depth the definition needs.
-/
import SIM.Model.Schema
import SIM.Model.SchemaExpected
import SIM.Lemmas.Json
namespace SIM
namespace SchemaM
open JsonM

abbrev refS (n : Str) : Schema := .node [] [] [] none (some n) [] [] [] none false none
abbrev allOfS (ss : List Schema) : Schema := .node [] [] [] none none ss [] [] none false none
abbrev anyOfS (ss : List Schema) : Schema := .node [] [] [] none none [] ss [] none false none
abbrev oneOfS (ss : List Schema) : Schema := .node [] [] [] none none [] [] ss none false none
abbrev arrS (s : Schema) : Schema := .node [.array] [] [] (some s) none [] [] [] none false none
abbrev objS (req : List Key) (props : List (Key × Schema)) (na : Bool) : Schema :=
  .node [.object] req props none none [] [] [] none na none
abbrev leafS (ts : List JType) (enum : Option (List Str)) (min : Option Nat) : Schema :=
  .node ts [] [] none none [] [] [] enum false min

/-! The conjuncts of `validates` that are a `match` get a name; the `match`es are copied from `validates`, so that
  `validates_succ` holds by `rfl`. Each is `true` when its keyword is absent: with these as `simp` lemmas a shape lemma
  needs no case split. -/

section
variable (defs : List (Str × Schema)) (f : Nat)

def typesOk (tys : List JType) (j : Json) : Bool := tys.isEmpty || tys.any (fun t => typeOk t j)

def membersOk (req : List Key) (props : List (Key × Schema)) (noAdd : Bool) (j : Json) : Bool :=
  match j with
  | .obj kv =>
    req.all (fun k => (getKey kv k).isSome)
    && kv.all (fun p => match lookupProp props p.1 with
        | some s => validates defs f s p.2
        | none => !noAdd)
  | _ => true

def itemsOk (items : Option Schema) (j : Json) : Bool :=
  match j, items with
  | .arr l, some s => l.all (fun x => validates defs f s x)
  | _, _ => true

def refOk (ref : Option Str) (j : Json) : Bool :=
  match ref with
  | some n => (match lookupDef defs n with
      | some s => validates defs f s j
      | none => false)
  | none => true

def enumOk (enum : Option (List Str)) (j : Json) : Bool :=
  match enum with
  | some vals => (match j with | .str s => vals.contains s | _ => false)
  | none => true

def minOk (min : Option Nat) (j : Json) : Bool :=
  match min, j with
  | some m, .num n => decide (m ≤ n)
  | _, _ => true

theorem validates_succ (tys req props items ref allOf anyOf oneOf enum noAdd min) (j : Json) :
    validates defs (f + 1) (.node tys req props items ref allOf anyOf oneOf enum noAdd min) j
      = (typesOk tys j && membersOk defs f req props noAdd j && itemsOk defs f items j && refOk defs f ref j
          && allOf.all (fun s => validates defs f s j)
          && (anyOf.isEmpty || anyOf.any (fun s => validates defs f s j))
          && (oneOf.isEmpty || (oneOf.filter (fun s => validates defs f s j)).length == 1)
          && enumOk enum j && minOk min j) :=
  rfl

@[simp] theorem typesOk_nil (j : Json) : typesOk [] j = true := rfl

@[simp] theorem membersOk_nil (j : Json) : membersOk defs f [] [] false j = true := by
  cases j <;> simp [membersOk, lookupProp]

@[simp] theorem itemsOk_none (j : Json) : itemsOk defs f none j = true := by
  cases j <;> rfl

@[simp] theorem refOk_none (j : Json) : refOk defs f none j = true := rfl

@[simp] theorem enumOk_none (j : Json) : enumOk none j = true := rfl

@[simp] theorem minOk_none (j : Json) : minOk none j = true := rfl

theorem validates_ref {defs : List (Str × Schema)} {n : Str} {s : Schema} (hl : lookupDef defs n = some s)
    (f : Nat) (j : Json) : validates defs (f + 1) (refS n) j = validates defs f s j := by
  simp [validates_succ, refOk, hl]

theorem validates_allOf1 (s : Schema) (j : Json) : validates defs (f + 1) (allOfS [s]) j = validates defs f s j := by
  simp [validates_succ]

theorem validates_anyOf2 (s t : Schema) (j : Json) :
    validates defs (f + 1) (anyOfS [s, t]) j = (validates defs f s j || validates defs f t j) := by
  simp [validates_succ]

theorem validates_oneOf (ss : List Schema) (j : Json) :
    validates defs (f + 1) (oneOfS ss) j
      = (ss.isEmpty || (ss.filter (fun s => validates defs f s j)).length == 1) := by
  simp [validates_succ]

theorem validates_arr (s : Schema) (l : List Json) :
    validates defs (f + 1) (arrS s) (.arr l) = l.all (fun x => validates defs f s x) := by
  simp [validates_succ, itemsOk, show typesOk [.array] (.arr l) = true from rfl]

theorem validates_obj (req : List Key) (props : List (Key × Schema)) (na : Bool) (kv : List (Key × Json)) :
    validates defs (f + 1) (objS req props na) (.obj kv)
      = (req.all (fun k => (getKey kv k).isSome)
          && kv.all (fun p => match lookupProp props p.1 with
              | some s => validates defs f s p.2
              | none => !na)) := by
  simp [validates_succ, membersOk, show typesOk [.object] (.obj kv) = true from rfl]

theorem validates_obj_missing (defs : List (Str × Schema)) (f : Nat) (req : List Key) (props : List (Key × Schema))
    (na : Bool) (kv : List (Key × Json)) (k : Key) (hk : k ∈ req) (hm : getKey kv k = none) :
    validates defs f (.node [.object] req props none none [] [] [] none na none) (.obj kv) = false := by
  cases f with
  | zero => rfl
  | succ f =>
    rw [validates_obj]
    have : req.all (fun k => (getKey kv k).isSome) = false := by
      rw [List.all_eq_false]
      exact ⟨k, hk, by simp [hm]⟩
    simp [this]

theorem validates_string (s : Str) : validates defs (f + 1) (leafS [.string] none none) (.str s) = true := rfl

theorem validates_optString (o : Option Str) :
    validates defs (f + 1) (leafS [.string, .null] none none) (posOpt o) = true := by
  cases o <;> rfl

theorem validates_null : validates defs (f + 1) (leafS [.null] none none) .null = true := rfl

theorem validates_uint (n : Nat) : validates defs (f + 1) (leafS [.integer] none (some 0)) (.num n) = true := by
  simp [validates_succ, minOk, show typesOk [.integer] (.num n) = true from rfl]

theorem validates_enum (vals : List Str) (s : Str) :
    validates defs (f + 1) (leafS [.string] (some vals) none) (.str s) = vals.contains s := by
  simp [validates_succ, enumOk, show typesOk [.string] (.str s) = true from rfl]

theorem acc_arr {defs : List (Str × Schema)} {f : Nat} {s : Schema} {α} {l : List α} {g : α → Json}
    (h : ∀ x ∈ l, validates defs f s (g x) = true) : validates defs (f + 1) (arrS s) (.arr (l.map g)) = true := by
  rw [validates_arr, List.all_map]
  exact List.all_eq_true.2 h

theorem validates_strs (l : List Str) :
    validates defs (f + 2) (arrS (leafS [.string] none none)) (jStrs l) = true :=
  acc_arr fun s _ => validates_string defs f s

end

theorem all_optMember (c : Bool) (k : Key) (v : Json) (P : Key × Json → Bool) :
    (optMember c k v).all P = (!c || P (k, v)) := by
  cases c <;> simp [optMember]

/-! Each `acc_X` lets `simp` evaluate the object node member by member (`all_optMember`, the `getKey` lemmas: no case split
  on which members the value has). What is left are the `$ref`s, closed by `acc_ref rfl`: the name comes from the goal,
  `rfl` looks it up in the table. -/

open Expected

theorem acc_ref {defs : List (Str × Schema)} {n : Str} {s : Schema} (hl : lookupDef defs n = some s) {f : Nat} {j : Json}
    (h : validates defs f s j = true) : validates defs (f + 1) (refS n) j = true :=
  (validates_ref hl f j).trans h

theorem acc_US {n : Str} (hl : lookupDef schemaDefs n = some def_UntrackedSymbol) (f : Nat) (t : Nat) :
    validates schemaDefs (f + 2) (refS n) (.num t) = true :=
  acc_ref hl (validates_uint _ f t)

theorem acc_Field (f : Nat) (fld : Field Nat) : validates schemaDefs (f + 4) def_Field_for_PortableForm (ofField fld) = true := by
  unfold def_Field_for_PortableForm
  simp [ofField_eq, validates_obj, all_optMember, getKey_append, getKey_optMember, getKey_cons, lookupProp,
    validates_allOf1, validates_optString, validates_strs]
  exact acc_US rfl _ _

theorem acc_Variant (f : Nat) (v : Variant Nat) :
    validates schemaDefs (f + 7) def_Variant_for_PortableForm (ofVariant v) = true := by
  unfold def_Variant_for_PortableForm
  simp [ofVariant, ofFields, validates_obj, all_optMember, getKey_append, getKey_optMember, getKey_cons, lookupProp,
    validates_string, validates_uint, validates_strs, validates_arr, jStr]
  exact .inr fun x _ => acc_ref rfl (acc_Field f x)

theorem acc_TDComposite (f : Nat) (fs : List (Field Nat)) :
    validates schemaDefs (f + 7) def_TypeDefComposite_for_PortableForm (.obj (ofFields fs)) = true := by
  unfold def_TypeDefComposite_for_PortableForm
  simp [ofFields, validates_obj, all_optMember, lookupProp, validates_arr]
  exact .inr fun x _ => acc_ref rfl (acc_Field _ x)

theorem acc_TDVariant (f : Nat) (vs : List (Variant Nat)) :
    validates schemaDefs (f + 10) def_TypeDefVariant_for_PortableForm
      (.obj (optMember (!vs.isEmpty) .variants (.arr (vs.map ofVariant)))) = true := by
  unfold def_TypeDefVariant_for_PortableForm
  simp [validates_obj, all_optMember, lookupProp, validates_arr]
  exact .inr fun x _ => acc_ref rfl (acc_Variant _ x)

theorem acc_typeOnly {n : Str} (hl : lookupDef schemaDefs n = some def_UntrackedSymbol) (f : Nat) (t : Nat) :
    validates schemaDefs (f + 4) (objS [.type_] [(.type_, allOfS [refS n])] false) (.obj [(.type_, .num t)]) = true := by
  simp [validates_obj, getKey, lookupProp, validates_allOf1, acc_US hl]

theorem primName_beq (p q : Prim) : (primName p == primName q) = (p == q) :=
  Bool.eq_iff_iff.2 <| by
    simp only [beq_iff_eq]
    exact ⟨fun h => Option.some.inj (by rw [← primOfName_primName p, h, primOfName_primName]), fun h => h ▸ rfl⟩

def prims : List Prim := [.bool, .char, .str, .u8, .u16, .u32, .u64, .u128, .u256, .i8, .i16, .i32, .i64, .i128, .i256]

/-- schemars writes the unit-only enum as a `oneOf` of one-value `enum`s; exactly one holds `primName p`, `primName` being injective -/
theorem acc_TDPrimitive (f : Nat) (p : Prim) :
    validates schemaDefs (f + 2) def_TypeDefPrimitive (.str (primName p)) = true := by
  have hs : def_TypeDefPrimitive = oneOfS (prims.map fun q => leafS [.string] (some [primName q]) none) := rfl
  rw [hs, validates_oneOf, List.filter_map]
  simp only [Function.comp_def, validates_enum, List.contains_cons, List.contains_nil, Bool.or_false, primName_beq,
    List.length_map]
  cases p <;> decide

theorem acc_TDArray (f : Nat) (n t : Nat) :
    validates schemaDefs (f + 4) def_TypeDefArray_for_PortableForm (.obj [(.len, .num n), (.type_, .num t)]) = true := by
  unfold def_TypeDefArray_for_PortableForm
  simp [validates_obj, getKey, lookupProp, validates_allOf1, validates_uint]
  exact acc_US rfl _ _

theorem acc_TDBitSeq (f : Nat) (s o : Nat) :
    validates schemaDefs (f + 4) def_TypeDefBitSequence_for_PortableForm
      (.obj [(.bitStoreType, .num s), (.bitOrderType, .num o)]) = true := by
  unfold def_TypeDefBitSequence_for_PortableForm
  simp [validates_obj, getKey, lookupProp, validates_allOf1]
  exact ⟨acc_US rfl _ _, acc_US rfl _ _⟩

/-- an alternative of an externally tagged enum: tag `p.1`, payload schema `p.2` -/
abbrev tagS (p : Key × Schema) : Schema := objS [p.1] [p] true

theorem validates_tag (defs : List (Str × Schema)) (f : Nat) (p : Key × Schema) (k : Key) (v : Json) :
    validates defs (f + 1) (tagS p) (.obj [(k, v)]) = (validates defs f p.2 v && decide (k = p.1)) := by
  by_cases h : k = p.1
  · simp [validates_obj, getKey, lookupProp, h]
  · simp [validates_obj, getKey, lookupProp, h, Ne.symm h]

/-- `hk`: only one alternative is for the tag of `{k: v}`, so only that one can accept it -/
theorem acc_tagged {defs : List (Str × Schema)} {alts : List (Key × Schema)} {k : Key} {s : Schema}
    (hk : alts.filter (fun p => decide (k = p.1)) = [(k, s)]) {f : Nat} {v : Json} (h : validates defs f s v = true) :
    validates defs (f + 2) (oneOfS (alts.map tagS)) (.obj [(k, v)]) = true := by
  rw [validates_oneOf, List.filter_map]
  simp [Function.comp_def, validates_tag, ← List.filter_filter, hk, h]

theorem acc_TypeDef (f : Nat) (d : TypeDef Nat) :
    validates schemaDefs (f + 13) def_TypeDef_for_PortableForm (ofTypeDef d) = true := by
  -- the names in the `$ref`s are read off the definition
  have hs : def_TypeDef_for_PortableForm = oneOfS ([(.composite, refS _), (.variant, refS _), (.sequence, refS _),
      (.array, refS _), (.tuple, arrS (refS _)), (.primitive, refS _), (.compact, refS _),
      (.bitsequence, refS _)].map tagS) := rfl
  rw [hs]
  cases d
  · exact acc_tagged rfl (acc_ref rfl (acc_TDComposite _ _))
  · exact acc_tagged rfl (acc_ref rfl (acc_TDVariant _ _))
  · exact acc_tagged rfl (acc_ref rfl (acc_typeOnly rfl _ _))
  · exact acc_tagged rfl (acc_ref rfl (acc_TDArray _ _ _))
  · exact acc_tagged rfl (acc_arr fun _ _ => acc_US rfl _ _)
  · exact acc_tagged rfl (acc_ref rfl (acc_TDPrimitive _ _))
  · exact acc_tagged rfl (acc_ref rfl (acc_typeOnly rfl _ _))
  · exact acc_tagged rfl (acc_ref rfl (acc_TDBitSeq _ _ _))

theorem acc_TypeParam (f : Nat) (p : TypeParam Nat) :
    validates schemaDefs (f + 4) def_TypeParameter_for_PortableForm (ofParam p) = true := by
  unfold def_TypeParameter_for_PortableForm
  obtain ⟨name, ty⟩ := p
  cases ty <;> simp [ofParam, validates_obj, getKey, lookupProp, validates_string, validates_anyOf2, validates_null, jStr]
  exact .inl (acc_US rfl _ _)

theorem acc_Type (f : Nat) (t : Ty Nat) : validates schemaDefs (f + 16) def_Type_for_PortableForm (ofTy t) = true := by
  unfold def_Type_for_PortableForm
  simp [ofTy, validates_obj, all_optMember, getKey_append, getKey_optMember, getKey_cons, lookupProp, validates_strs,
    validates_arr, validates_allOf1]
  exact ⟨.inr fun p _ => acc_ref rfl (acc_TypeParam _ p), acc_ref rfl (acc_TypeDef _ _)⟩

theorem acc_PortableType (f : Nat) (p : PType) :
    validates schemaDefs (f + 19) def_PortableType (ofPType p) = true := by
  unfold def_PortableType
  simp [ofPType, validates_obj, getKey, lookupProp, validates_uint, validates_allOf1]
  exact acc_ref rfl (acc_Type _ _)

theorem acc_root (f : Nat) (r : PortableRegistry) : validates schemaDefs (f + 22) schemaRoot (ofRegistry r) = true := by
  unfold schemaRoot
  simp [ofRegistry, validates_obj, getKey, lookupProp, validates_arr]
  exact fun p _ => acc_ref rfl (acc_PortableType _ p)

end SchemaM
end SIM
