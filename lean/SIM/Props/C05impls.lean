/-
  C05 (tie to the source by translation): the alias rules of the model (`Impls.identity`) are the reading of the
  `type Identity = ..` declarations of /repo/src/impls.rs, re-extracted on every run; proofs in C16impls.
-/
import SIM.Props.C16impls
namespace SIM
namespace C05
open Impls

theorem extracted_identities_ok : Extracted.ImplTable.identities = Expected.ImplTable.identities := C16.extracted_impls_ok.1

theorem identity_is_declared (t : TyExpr) (r : Str × Str × Str) (h : C16.declared t = some r) :
    r ∈ Expected.ImplTable.identities ∧ C16.readIdentity t r.2.1 = some (identity t) :=
  ⟨C16.declared_in_table t r h, C16.identity_is_declared t r h⟩

example : C16.declared (.vec (.box_ .bool)) = some (C16.iVec, C16.sSliceT, C16.sFwdId) ∧ identity (.vec (.box_ .bool)) = .slice (.box_ .bool) := ⟨rfl, rfl⟩

end C05
end SIM
