/-
  C10 (continued) — the result of `PortableRegistry::retain` is in canonical depth-first numbering: retaining everything
  from it again changes neither the registry nor any id. Also the corner cases: nothing accepted, never grows, accepted
  ids are retained.
-/
import SIM.Lemmas.RegistryCanon
namespace SIM
namespace C10
open Retain Reg

theorem retain_none_kept (r : PortableRegistry) : retain r (fun _ => false) = some ([], []) := by
  rw [retain, retainLoop_eq, List.filter_eq_nil_iff.2 (fun _ _ => Bool.false_ne_true)]; rfl

theorem retain_shrinks (r : PortableRegistry) (hw : WF r) (keep : Nat → Bool) (r' : PortableRegistry)
    (m : List (Nat × Nat)) (h : retain r keep = some (r', m)) :
    r'.length ≤ r.length ∧ ∀ p ∈ m, p.1 < r.length := by
  obtain ⟨s, _, _, hc, hlt, rfl, rfl⟩ := retain_spec hw keep h
  exact ⟨hc.portable_length ▸ nodup_length_le hc.inv.nodup hlt,
    fun p hp => hlt _ (List.mem_of_getElem? (List.mem_zipIdx_iff_getElem?.1 hp))⟩

theorem retain_keeps_accepted (r : PortableRegistry) (hw : WF r) (keep : Nat → Bool) (r' : PortableRegistry)
    (m : List (Nat × Nat)) (h : retain r keep = some (r', m)) (i : Nat) (hi : i < r.length) (hk : keep i = true) :
    ∃ n, lookup m i = some n := by
  obtain ⟨s, _, htl, _, _, _, rfl⟩ := retain_spec hw keep h
  obtain ⟨_, _, hroots, _⟩ := registerTypes_post I_empty htl
  exact ⟨_, by rw [lookup_zipIdx, if_pos (hroots i (List.mem_filter.2 ⟨List.mem_range.2 hi, hk⟩))]⟩

theorem retain_canonical (r : PortableRegistry) (hw : WF r) (keep : Nat → Bool) (r' : PortableRegistry)
    (m : List (Nat × Nat)) (h : retain r keep = some (r', m)) :
    retain r' (fun _ => true) = some (r', (List.range r'.length).map (fun i => (i, i))) := by
  obtain ⟨s, _, htl, _, _, rfl, _⟩ := retain_spec hw keep h
  exact RegCanon.registry_canon_core htl

private def prim' (p : Prim) : Ty Nat := { path := [], params := [], def_ := .primitive p, docs := [] }

/-- 0: `bool`; 1: `A { b: #2, u: #0 }`; 2: sequence of `#1` -/
def demo3 : PortableRegistry :=
  [ { id := 0, ty := prim' .bool },
    { id := 1, ty := { path := [[65]], params := [],
                        def_ := .composite [{ name := some [98], ty := 2, typeName := none, docs := [] },
                                            { name := some [117], ty := 0, typeName := none, docs := [] }], docs := [] } },
    { id := 2, ty := { path := [], params := [], def_ := .sequence 1, docs := [] } } ]

/-- `demo3` retained from id 2: 2, then 1, then 0 -/
def demo3' : PortableRegistry :=
  [ { id := 0, ty := { path := [], params := [], def_ := .sequence 1, docs := [] } },
    { id := 1, ty := { path := [[65]], params := [],
                        def_ := .composite [{ name := some [98], ty := 0, typeName := none, docs := [] },
                                            { name := some [117], ty := 2, typeName := none, docs := [] }], docs := [] } },
    { id := 2, ty := prim' .bool } ]

example : WF demo3 := by
  unfold WF
  decide

example : retain demo3 (fun i => i == 2) = some (demo3', [(2, 0), (1, 1), (0, 2)]) := by
  decide +kernel

/-- the conclusion of `retain_canonical`, computed -/
example : retain demo3' (fun _ => true) = some (demo3', (List.range demo3'.length).map (fun i => (i, i))) := by
  decide +kernel

/-- and obtained from the theorem -/
example : retain demo3' (fun _ => true) = some (demo3', (List.range demo3'.length).map (fun i => (i, i))) :=
  retain_canonical demo3 (by unfold WF; decide) (fun i => i == 2) demo3' [(2, 0), (1, 1), (0, 2)] (by decide)

example : retain demo3 (fun i => i == 0) = some ([{ id := 0, ty := prim' .bool }], [(0, 0)]) := by
  decide

/-- `demo3` itself is not canonical -/
example : retain demo3 (fun i => i == 2) ≠ some (demo3, (List.range demo3.length).map (fun i => (i, i))) := by
  decide

end C10
end SIM
