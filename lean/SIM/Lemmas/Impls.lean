/-
  SIM.Lemmas.Impls — `Impls.identity` is the normal form of the alias rules (`Spec.AliasEq`): a type is an alias of its
  identity, and whatever is constant along the rules (`identity`, `typeInfo`) takes the same value at both.
-/
import SIM.Model.Impls
import SIM.Spec.Alias
namespace SIM
namespace Impls
open Spec

theorem aliasEq_identity (t : TyExpr) : AliasEq t (identity t) := by
  induction t with
  | box_ t ih => exact .trans (.box_ t) ih
  | rc t ih => exact .trans (.rc t) ih
  | arc t ih => exact .trans (.arc t) ih
  | ref_ t ih => exact .trans (.ref_ t) ih
  | refMut t ih => exact .trans (.refMut t) ih
  | vec t _ => exact .vec t
  | vecDeque t _ => exact .vecDeque t
  | string => exact .string
  | phantom t _ => exact .phantom t .tuple0
  | _ => exact .refl _

theorem identity_of_aliasEq {a b : TyExpr} (h : AliasEq a b) : identity a = identity b := by
  induction h with
  | symm _ ih => exact ih.symm
  | trans _ _ ih1 ih2 => exact ih1.trans ih2
  | _ => rfl

theorem typeInfo_of_aliasEq (docs : Bool) {a b : TyExpr} (h : AliasEq a b) : typeInfo docs a = typeInfo docs b := by
  induction h with
  | symm _ ih => exact ih.symm
  | trans _ _ ih1 ih2 => exact ih1.trans ih2
  | _ => rfl

/-- an identity `Cow<U>` is reached only through wrappers around `Cow<U>` itself -/
theorem sizeOf_lt_of_identity_cow {t u : TyExpr} : identity t = .cow u → sizeOf u < sizeOf t := by
  induction t with
  | box_ t ih | rc t ih | arc t ih | ref_ t ih | refMut t ih =>
    exact fun h => Nat.lt_trans (ih h) (Nat.lt_add_of_pos_left Nat.one_pos)
  | cow t _ => exact fun h => TyExpr.cow.inj h ▸ Nat.lt_add_of_pos_left Nat.one_pos
  | _ => exact fun h => nomatch h

theorem identity_ne_cow (t : TyExpr) : identity t ≠ .cow t :=
  fun h => Nat.lt_irrefl _ (sizeOf_lt_of_identity_cow h)

theorem pushed_not_phantom (fs : List (Field TyExpr)) : ∀ f ∈ pushed fs, isPhantom f.ty = false := by
  intro f hf
  simpa using (List.mem_filter.1 hf).2

end Impls
end SIM
