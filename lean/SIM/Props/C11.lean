/-
  C11 — registering more never disturbs what is registered: ids and entries are stable under
  extension of a history, a history can be run in pieces, and registering the same roots in another
  order gives the same registry up to a renaming of ids.
-/
import SIM.Props.C05
namespace SIM
namespace C11
open Reg

theorem register_extends (env : Nat → Ty Nat) (fuel : Nat) (ops1 ops2 : List Registry.Op) (s1 s2 : RegState)
    (o1 o2 : List Registry.Out)
    (h1 : Registry.run env fuel Registry.empty ops1 = some (s1, o1))
    (h2 : Registry.run env fuel s1 ops2 = some (s2, o2)) :
    s1.table.vec <+: s2.table.vec ∧
    ∀ i, i < (Registry.toPortable s1).length →
      resolve (Registry.toPortable s2) i = resolve (Registry.toPortable s1) i := by
  have hc1 := run_complete (Complete.empty env) h1
  have hc2 := run_complete hc1 h2
  obtain ⟨_, hP, _, _⟩ := run_post hc1.inv h2
  refine ⟨hP.pre, ?_⟩
  intro i hi
  rw [hc1.portable_length] at hi
  obtain ⟨d, hd⟩ := hc1.allKeys i hi
  rw [hc1.resolve hd, hc2.resolve (hP.keep _ hd)]

theorem run_append (env : Nat → Ty Nat) (fuel : Nat) (ops1 ops2 : List Registry.Op) (s : RegState) :
    Registry.run env fuel s (ops1 ++ ops2) =
    match Registry.run env fuel s ops1 with
    | none => none
    | some (s1, o1) =>
      match Registry.run env fuel s1 ops2 with
      | none => none
      | some (s2, o2) => some (s2, o1 ++ o2) := by
  simp only [Registry.run_eq, Registry.travList_append]
  rcases Registry.travList (Registry.step env fuel) s ops1 with _ | ⟨s1, o1⟩
  · rfl
  · simp only [Option.bind_some]
    rcases Registry.travList (Registry.step env fuel) s1 ops2 with _ | ⟨s2, o2⟩ <;> rfl

theorem perm_iso (env : Nat → Ty Nat) (fuel : Nat) (roots roots' : List Nat) (s s' : RegState)
    (o o' : List Registry.Out)
    (hp : roots.Perm roots')
    (h : Registry.run env fuel Registry.empty (roots.map Registry.Op.reg) = some (s, o))
    (h' : Registry.run env fuel Registry.empty (roots'.map Registry.Op.reg) = some (s', o')) :
    let σ : Nat → Nat := fun i => idOf s' ((s.table.vec[i]?).getD 0)
    s.table.vec.length = s'.table.vec.length ∧
    (∀ t, t ∈ s.table.vec ↔ t ∈ s'.table.vec) ∧
    (∀ t ∈ s.table.vec, σ (idOf s t) = idOf s' t) ∧
    (∀ i j, i < s.table.vec.length → j < s.table.vec.length → σ i = σ j → i = j) ∧
    (∀ t ∈ s.table.vec, resolve (Registry.toPortable s') (idOf s' t) =
      (resolve (Registry.toPortable s) (idOf s t)).map (Ty.map σ)) := by
  intro σ
  have hc := run_complete (Complete.empty env) h
  have hc' := run_complete (Complete.empty env) h'
  -- both interners hold the identities reachable from the roots, and a permutation has the same members
  have hmem : ∀ t, t ∈ s.table.vec ↔ t ∈ s'.table.vec := fun t => by
    have hroots : ∀ l : List Nat, histRoots (l.map Registry.Op.reg) = l := fun l =>
      (histRoots_map_reg id l).trans (List.map_id l)
    rw [C05.interned_eq_reachable env fuel _ s o h, C05.interned_eq_reachable env fuel _ s' o' h', hroots, hroots]
    exact ⟨Reach.mono fun r => hp.mem_iff.1, Reach.mono fun r => hp.mem_iff.2⟩
  have hσ : ∀ t ∈ s.table.vec, σ (idOf s t) = idOf s' t := fun t ht =>
    congrArg (fun o => idOf s' (o.getD 0)) (getElem?_idxOf ht)
  refine ⟨((List.perm_ext_iff_of_nodup hc.inv.nodup hc'.inv.nodup).2 hmem).length_eq, hmem, hσ, ?_, ?_⟩
  · -- `i` and `j` are the ids of `s.table.vec[i]` and `s.table.vec[j]`; `idOf s'` is injective on members
    intro i j hi hj hij
    rw [← hc.inv.nodup.idxOf_getElem i hi, ← hc.inv.nodup.idxOf_getElem j hj] at hij ⊢
    rw [← idOf, ← idOf, hσ _ (List.getElem_mem hi), hσ _ (List.getElem_mem hj)] at hij
    rw [idxOf_inj ((hmem _).1 (List.getElem_mem hi)) ((hmem _).1 (List.getElem_mem hj)) hij]
  · intro t ht
    have e := hc.entry ht
    rw [hc.resolve e.1, hc'.resolve (hc'.entry ((hmem t).1 ht)).1, Option.map_some, Ty.map_comp]
    exact congrArg some (Ty.map_congr _ _ _ fun c hcr => (hσ c (e.2 c hcr)).symm)

end C11
end SIM
