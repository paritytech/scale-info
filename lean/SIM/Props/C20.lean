/-
  C20 — ill-formed constructions are rejected: by the typestate builder API (a type without a path, a variant without an
  index, a field without a type, named/unnamed fields mixed) and by the derive's attribute validator (unions, unknown
  keys, duplicates, bad `capture_docs` values, a type parameter missing from an explicit `bounds(..)`).
-/
import SIM.Spec.Typestate
namespace SIM
namespace C20
open Typestate Spec

theorem filter_length_zero_of_any_false {α : Type} (p : α → Bool) (l : List α) (h : l.any p = false) :
    (l.filter p).length = 0 := by
  simpa using h

theorem any_of_filter_length_one {α : Type} {p : α → Bool} {l : List α} (h : (l.filter p).length = 1) :
    l.any p = true := by
  cases ha : l.any p with
  | true => rfl
  | false => rw [filter_length_zero_of_any_false p l ha] at h; cases h

theorem fieldOk_iff {k : FKind} {f : List FStep} : fieldOk k f = true ↔
    f.count .ty = 1 ∧ (match k with | .named => f.count .name = 1 | .unnamed => f.count .name = 0 | .unit => False) := by
  cases k <;> simp [fieldOk]

/-- `NoFields` needs no case of its own: no member is `fieldOk` there -/
theorem fieldsOk_iff {fp : FieldsProg} : fieldsOk fp = true ↔ ∀ f ∈ fp.fields, fieldOk fp.kind f = true := by
  obtain ⟨k, fs⟩ := fp
  cases k
  · simp [fieldsOk, fieldOk, List.eq_nil_iff_forall_not_mem]
  all_goals exact List.all_eq_true

theorem variantOk_iff {v : List VStep} : variantOk v = true ↔
    (v.filter isIndex).length = 1 ∧ ∀ fp, VStep.fields fp ∈ v → fieldsOk fp = true := by
  simp only [variantOk, Bool.and_eq_true, beq_iff_eq, List.all_eq_true]
  refine and_congr_right fun _ => ⟨fun h fp hfp => h _ hfp, fun h c hc => ?_⟩
  cases c with
  | fields fp => exact h fp hc
  | _ => rfl

theorem accepts_iff {prog : List TStep} : accepts prog = true ↔
    (prog.filter isPath).length = 1 ∧ (prog.filter isTerminal).length = 1 ∧
    (match prog.getLast? with
     | some (.composite fp) => fieldsOk fp
     | some (.variant vs) => vs.all variantOk
     | _ => false) = true := by
  simp only [accepts, Bool.and_eq_true, beq_iff_eq, and_assoc]
  exact Iff.rfl

theorem accepts_composite {prog : List TStep} {fp : FieldsProg} (h : accepts prog = true)
    (hl : prog.getLast? = some (.composite fp)) : ∀ f ∈ fp.fields, fieldOk fp.kind f = true := by
  have := (accepts_iff.1 h).2.2
  rw [hl] at this
  exact fieldsOk_iff.1 this

theorem accepts_variant {prog : List TStep} {vs : List (List VStep)} (h : accepts prog = true)
    (hl : prog.getLast? = some (.variant vs)) : ∀ v ∈ vs, variantOk v = true := by
  have := (accepts_iff.1 h).2.2
  rw [hl] at this
  exact List.all_eq_true.1 this

theorem accepted_has_path (prog : List TStep) (h : accepts prog = true) : prog.any isPath = true :=
  any_of_filter_length_one (accepts_iff.1 h).1

theorem accepted_variant_has_index (prog : List TStep) (vs : List (List VStep)) (h : accepts prog = true)
    (hl : prog.getLast? = some (.variant vs)) : ∀ v ∈ vs, v.any isIndex = true :=
  fun v hv => any_of_filter_length_one (variantOk_iff.1 (accepts_variant h hl v hv)).1

theorem accepted_field_has_type (prog : List TStep) (fp : FieldsProg) (h : accepts prog = true)
    (hl : prog.getLast? = some (.composite fp)) : ∀ f ∈ fp.fields, f.count .ty = 1 :=
  fun f hf => (fieldOk_iff.1 (accepts_composite h hl f hf)).1

theorem named_all_named (prog : List TStep) (fp : FieldsProg) (h : accepts prog = true)
    (hl : prog.getLast? = some (.composite fp)) (hk : fp.kind = .named) : ∀ f ∈ fp.fields, f.count .name = 1 := by
  intro f hf
  have := (fieldOk_iff.1 (accepts_composite h hl f hf)).2
  rwa [hk] at this

theorem unnamed_all_unnamed (prog : List TStep) (fp : FieldsProg) (h : accepts prog = true)
    (hl : prog.getLast? = some (.composite fp)) (hk : fp.kind = .unnamed) : ∀ f ∈ fp.fields, f.count .name = 0 := by
  intro f hf
  have := (fieldOk_iff.1 (accepts_composite h hl f hf)).2
  rwa [hk] at this

/-- the same inside the fields of every variant -/
theorem variant_fields_ok (prog : List TStep) (vs : List (List VStep)) (h : accepts prog = true)
    (hl : prog.getLast? = some (.variant vs)) : ∀ v ∈ vs, ∀ c ∈ v, ∀ fp, c = VStep.fields fp → fieldsOk fp = true :=
  fun v hv _ hc fp hfp => (variantOk_iff.1 (accepts_variant h hl v hv)).2 fp (hfp ▸ hc)

theorem fieldsIll_not_ok {fp : FieldsProg} (h : fieldsIll fp = true) : fieldsOk fp = false := by
  refine Bool.eq_false_iff.2 fun hok => ?_
  obtain ⟨f, hf, hbad⟩ := List.any_eq_true.1 h
  obtain ⟨hty, hname⟩ := fieldOk_iff.1 (fieldsOk_iff.1 hok f hf)
  cases hk : fp.kind <;> rw [hk] at hname hbad
  · exact hname
  · rw [hty, hname] at hbad; exact absurd hbad (by decide)
  · rw [hty, hname] at hbad; exact absurd hbad (by decide)

theorem variantIll_not_ok {v : List VStep}
    (h : (!(v.any isIndex) || v.any (fun c => match c with | .fields fp => fieldsIll fp | _ => false)) = true) :
    variantOk v = false := by
  refine Bool.eq_false_iff.2 fun hok => ?_
  obtain ⟨hi, hf⟩ := variantOk_iff.1 hok
  rw [any_of_filter_length_one hi] at h
  obtain ⟨c, hc, hbad⟩ := List.any_eq_true.1 h
  cases c with
  | fields fp => exact Bool.false_ne_true ((fieldsIll_not_ok hbad).symm.trans (hf fp hc))
  | _ => cases hbad

theorem accepted_last_terminal {prog : List TStep} (h : accepts prog = true) : prog.getLast?.map isTerminal = some true := by
  have hl := (accepts_iff.1 h).2.2
  cases hg : prog.getLast? with
  | none => rw [hg] at hl; cases hl
  | some x =>
    rw [hg] at hl
    cases x with
    | composite _ | variant _ => rfl
    | _ => cases hl

theorem accepted_terminal_is_last {prog : List TStep} (h : accepts prog = true)
    {s : TStep} (hs : s ∈ prog) (ht : isTerminal s = true) : prog.getLast? = some s := by
  obtain ⟨x, hg, hx⟩ := Option.map_eq_some_iff.1 (accepted_last_terminal h)
  obtain ⟨y, hy⟩ := List.length_eq_one_iff.1 (accepts_iff.1 h).2.1
  have hsy := List.mem_filter.2 ⟨hs, ht⟩
  have hxy := List.mem_filter.2 ⟨List.mem_of_getLast? hg, hx⟩
  rw [hy, List.mem_singleton] at hsy hxy
  rw [hg, hsy, hxy]

theorem illformed_not_accepted {prog : List TStep} (h : illFormed prog = true) : accepts prog = false := by
  refine Bool.eq_false_iff.2 fun hacc => ?_
  rw [illFormed, accepted_has_path prog hacc] at h
  obtain ⟨s, hs, hbad⟩ := List.any_eq_true.1 h
  cases s with
  | composite fp =>
    have := fieldsOk_iff.2 (accepts_composite hacc (accepted_terminal_is_last hacc hs rfl))
    rw [fieldsIll_not_ok hbad] at this; cases this
  | variant vs =>
    obtain ⟨v, hv, hvbad⟩ := List.any_eq_true.1 hbad
    have := accepts_variant hacc (accepted_terminal_is_last hacc hs rfl) v hv
    rw [variantIll_not_ok hvbad] at this; cases this
  | _ => cases hbad

/-- wherever in the chain the ill-formed construction stands; `hterm` is not used (`illformed_not_accepted`) -/
theorem illformed_rejected (prog : List TStep) (hterm : ∀ s ∈ prog.dropLast, isTerminal s = false)
    (h : illFormed prog = true) : accepts prog = false :=
  illformed_not_accepted h

theorem deriveAccepts_iff {u : Bool} {ps : List Str} {attrs : List Attr} : deriveAccepts u ps attrs = true ↔
    u = false ∧ attrs.any isUnknown = false ∧
    (attrs.filter isBounds).length ≤ 1 ∧ (attrs.filter isSkip).length ≤ 1 ∧
    (attrs.filter isCapture).length ≤ 1 ∧ (attrs.filter isCrate).length ≤ 1 ∧
    (∀ a ∈ attrs, (match a with | .captureDocs v => captureOk v | _ => true) = true) ∧
    (match boundsParams attrs with
     | none => true
     | some bs => ps.all (fun p => bs.contains p || (skippedParams attrs).contains p)) = true := by
  simp only [deriveAccepts, Bool.and_eq_true, Bool.not_eq_true', decide_eq_true_eq, List.all_eq_true, and_assoc]
  exact Iff.rfl

/-- `u = true`: the item is a union -/
theorem attrs_reject_union (ps : List Str) (attrs : List Attr) : deriveAccepts true ps attrs = false :=
  Bool.eq_false_iff.2 fun hacc => Bool.noConfusion (deriveAccepts_iff.1 hacc).1

theorem attrs_reject_unknown (u : Bool) (ps : List Str) (attrs : List Attr) (h : Attr.unknown ∈ attrs) :
    deriveAccepts u ps attrs = false :=
  Bool.eq_false_iff.2 fun hacc =>
    Bool.false_ne_true ((deriveAccepts_iff.1 hacc).2.1.symm.trans (List.any_eq_true.2 ⟨_, h, rfl⟩))

theorem attrs_reject_duplicates (u : Bool) (ps : List Str) (attrs : List Attr)
    (h : 2 ≤ (attrs.filter isBounds).length ∨ 2 ≤ (attrs.filter isSkip).length ∨ 2 ≤ (attrs.filter isCapture).length ∨ 2 ≤ (attrs.filter isCrate).length) :
    deriveAccepts u ps attrs = false := by
  refine Bool.eq_false_iff.2 fun hacc => ?_
  obtain ⟨-, -, h1, h2, h3, h4, -⟩ := deriveAccepts_iff.1 hacc
  omega

theorem attrs_reject_bad_capture_docs (u : Bool) (ps : List Str) (attrs : List Attr) (v : Str)
    (h : Attr.captureDocs v ∈ attrs) (hv : captureOk v = false) : deriveAccepts u ps attrs = false := by
  refine Bool.eq_false_iff.2 fun hacc => ?_
  obtain ⟨-, -, -, -, -, -, hc, -⟩ := deriveAccepts_iff.1 hacc
  exact Bool.false_ne_true (hv.symm.trans (hc _ h))

theorem attrs_missing_bound (u : Bool) (ps : List Str) (attrs : List Attr) (bs : List Str) (p : Str)
    (hb : boundsParams attrs = some bs) (hp : p ∈ ps) (h1 : bs.contains p = false) (h2 : (skippedParams attrs).contains p = false) :
    deriveAccepts u ps attrs = false := by
  refine Bool.eq_false_iff.2 fun hacc => ?_
  obtain ⟨-, -, -, -, -, -, -, hbound⟩ := deriveAccepts_iff.1 hacc
  rw [hb] at hbound
  have := List.all_eq_true.1 hbound p hp
  rw [h1, h2] at this
  cases this

/-- the valid spellings are accepted in any case (`Always`, `never`, `DEFAULT`), another word (`some`) is not -/
theorem capture_docs_values : captureOk [65, 108, 119, 97, 121, 115] = true ∧ captureOk [110, 101, 118, 101, 114] = true ∧
    captureOk [68, 69, 70, 65, 85, 76, 84] = true ∧ captureOk [115, 111, 109, 101] = false := by
  decide

example : accepts [.path, .typeParams, .docs, .composite ⟨.named, [[.name, .ty, .typeName], [.ty, .name, .docs]]⟩] = true := by decide
example : accepts [.path, .variant [[.index, .fields ⟨.unnamed, [[.ty]]⟩], [.docs, .index, .fields ⟨.unit, []⟩]]] = true := by decide
/-- no path -/
example : accepts [.typeParams, .composite ⟨.unit, []⟩] = false := by decide
/-- variant without index -/
example : accepts [.path, .variant [[.index], [.fields ⟨.unit, []⟩]]] = false := by decide
/-- field without type -/
example : accepts [.path, .composite ⟨.named, [[.name, .ty], [.name]]⟩] = false := by decide
/-- named field in an unnamed builder -/
example : accepts [.path, .composite ⟨.unnamed, [[.ty], [.name, .ty]]⟩] = false := by decide
/-- and the spec flags exactly those -/
example : illFormed [.typeParams, .composite ⟨.unit, []⟩] = true := by decide
example : illFormed [.path, .variant [[.index], [.fields ⟨.unit, []⟩]]] = true := by decide
example : illFormed [.path, .composite ⟨.named, [[.name, .ty], [.name]]⟩] = true := by decide
example : illFormed [.path, .composite ⟨.unnamed, [[.ty], [.name, .ty]]⟩] = true := by decide

example : deriveAccepts false [[84], [85]]
    [.bounds [[84]], .skipTypeParams [[85]], .captureDocs [110, 101, 118, 101, 114], .crate_, .replaceSegment] = true := by decide
/-- a `bounds(..)` that leaves `U` neither bound nor skipped -/
example : deriveAccepts false [[84], [85]] [.bounds [], .skipTypeParams [[84]]] = false := by decide

end C20
end SIM
