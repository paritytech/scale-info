/-
  C05 (alias clause) — two type expressions declare the same identity exactly when they are related
  by the transparent-wrapper rules; different generic arguments or different definitions never
  share an identity.
-/
import SIM.Lemmas.Impls
namespace SIM
namespace C05
open Impls Spec

theorem identity_eq_aliasNorm (t : TyExpr) : identity t = aliasNorm t := by
  induction t with
  | box_ _ ih | rc _ ih | arc _ ih | ref_ _ ih | refMut _ ih => exact ih
  | _ => rfl

theorem identity_alias (a b : TyExpr) : identity a = identity b ↔ AliasEq a b :=
  -- each is an alias of its identity, and the rules do not change the identity
  ⟨fun h => .trans (aliasEq_identity a) (h ▸ .symm (aliasEq_identity b)), identity_of_aliasEq⟩

theorem wrappers_share (t : TyExpr) : identity (.box_ t) = identity t ∧ identity (.rc t) = identity t ∧ identity (.arc t) = identity t ∧
    identity (.ref_ t) = identity t ∧ identity (.refMut t) = identity t ∧ identity (.vec t) = identity (.slice t) ∧
    identity (.vecDeque t) = identity (.slice t) ∧ identity .string = identity .str :=
  ⟨rfl, rfl, rfl, rfl, rfl, rfl, rfl, rfl⟩

theorem phantoms_share (a b : TyExpr) : identity (.phantom a) = identity (.phantom b) := rfl

/-- different generic arguments, different identity: shown for six constructors (`Vec`'s identity is that of `[T]`) -/
theorem distinct_args_distinct (a b : TyExpr) :
    (identity (.option a) = identity (.option b) → a = b) ∧ (identity (.slice a) = identity (.slice b) → a = b) ∧
    (identity (.vec a) = identity (.vec b) → a = b) ∧ (identity (.btreeSet a) = identity (.btreeSet b) → a = b) ∧
    (identity (.compact a) = identity (.compact b) → a = b) ∧ (∀ n m, identity (.array n a) = identity (.array m b) → n = m ∧ a = b) := by
  simp [identity]

/-- different definitions, different identity: the confusable pairs -/
theorem distinct_defs_distinct (t : TyExpr) :
    identity (.range t) ≠ identity (.rangeIncl t) ∧ identity (.binaryHeap t) ≠ identity (.slice t) ∧
    identity (.btreeSet t) ≠ identity (.binaryHeap t) ∧ identity (.vec t) ≠ identity (.option t) ∧ identity (.cow t) ≠ identity t :=
  -- four pairs of different constructors; `Cow<T>` and `T` differ in size, whatever wrappers `T` is under
  ⟨nofun, nofun, nofun, nofun, fun h => identity_ne_cow t h.symm⟩

example : identity (.box_ (.box_ (.uint .w8))) = .uint .w8 := by decide
example : identity (.box_ (.vec (.uint .w8))) = .slice (.uint .w8) := by decide
example : identity (.ref_ .string) = .str := by decide
example : identity (.vec (.box_ (.uint .w8))) ≠ identity (.vec (.uint .w8)) := by decide

end C05
end SIM
