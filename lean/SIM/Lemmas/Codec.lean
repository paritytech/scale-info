/-
  SIM.Lemmas.Codec — the encoder/decoder pair of `SIM.Model.Codec` is a bijection between bounded values and
  canonical byte strings (`Good`), built compositionally: sequencing (`Good.seq`, of which `pair`, `Vec` and `String` are
  instances), `Dec.map` (`Good.iso` for structs, `Good.arm` for the arms of a tagged union), `Option`, repetition.
-/
import SIM.Model.Codec
namespace SIM
namespace Codec

/-- `dec` accepts exactly the encodings of `ok` values, each followed by a remainder that it hands back untouched -/
def Good {α} (enc : α → Bytes) (dec : Dec α) (ok : α → Prop) : Prop :=
  ∀ bs x rest, dec bs = some (x, rest) ↔ ok x ∧ bs = enc x ++ rest

section
variable {α β : Type} {enc : α → Bytes} {dec : Dec α} {ok : α → Prop}

theorem Good.rt (g : Good enc dec ok) (x : α) (rest : Bytes) (h : ok x) : dec (enc x ++ rest) = some (x, rest) :=
  (g _ x rest).2 ⟨h, rfl⟩

theorem Good.canon (g : Good enc dec ok) (bs : Bytes) (x : α) (rest : Bytes) (h : dec bs = some (x, rest)) :
    ok x ∧ bs = enc x ++ rest :=
  (g bs x rest).1 h

theorem Good.length_eq (g : Good enc dec ok) {bs : Bytes} {x : α} {rest : Bytes} (h : dec bs = some (x, rest)) :
    bs.length = (enc x).length + rest.length := by
  rw [(g.canon bs x rest h).2, List.length_append]

theorem Good.of (rt : ∀ x rest, ok x → dec (enc x ++ rest) = some (x, rest))
    (canon : ∀ bs x rest, dec bs = some (x, rest) → ok x ∧ bs = enc x ++ rest) : Good enc dec ok :=
  fun bs x rest => ⟨canon bs x rest, fun ⟨h, e⟩ => e ▸ rt x rest h⟩

theorem Good.prefix_free (g : Good enc dec ok) (a b : α) (x y : Bytes) (ha : ok a) (hb : ok b)
    (h : enc a ++ x = enc b ++ y) : a = b ∧ x = y := by
  have h1 := g.rt a x ha
  rw [h, g.rt b y hb] at h1
  cases h1
  exact ⟨rfl, rfl⟩

theorem Good.inj (g : Good enc dec ok) (a b : α) (ha : ok a) (hb : ok b) (h : enc a = enc b) : a = b :=
  (g.prefix_free a b [] [] ha hb (by rw [h])).1

theorem Good.congr {ok' : α → Prop} (g : Good enc dec ok) (h : ∀ x, ok x ↔ ok' x) : Good enc dec ok' := by
  intro bs x rest
  rw [← h]
  exact g bs x rest
end

theorem Dec.map_eq_some {α β} (f : α → β) (d : Dec α) (bs : Bytes) (y : β) (r : Bytes) :
    Dec.map f d bs = some (y, r) ↔ ∃ a, d bs = some (a, r) ∧ f a = y := by
  unfold Dec.map
  rcases d bs with _ | ⟨a, rest⟩
  · exact ⟨nofun, nofun⟩
  · simp only [Option.some.injEq, Prod.mk.injEq]
    constructor
    · rintro ⟨rfl, rfl⟩; exact ⟨a, ⟨rfl, rfl⟩, rfl⟩
    · rintro ⟨_, ⟨rfl, rfl⟩, rfl⟩; exact ⟨rfl, rfl⟩

theorem Dec.filter_eq_some {α} (p : α → Bool) (d : Dec α) (bs : Bytes) (x : α) (r : Bytes) :
    Dec.filter p d bs = some (x, r) ↔ d bs = some (x, r) ∧ p x = true := by
  unfold Dec.filter
  rcases d bs with _ | ⟨a, rest⟩
  · exact ⟨nofun, nofun⟩
  · simp only [Option.ite_none_right_eq_some, Option.some.injEq, Prod.mk.injEq]
    constructor
    · rintro ⟨hp, rfl, rfl⟩; exact ⟨⟨rfl, rfl⟩, hp⟩
    · rintro ⟨⟨rfl, rfl⟩, hp⟩; exact ⟨hp, rfl, rfl⟩

/-! The shape `Good.seq` asks for: `Option.bind` on the first decoder's result. -/

theorem Dec.pair_eq_bind {α β} (d1 : Dec α) (d2 : Dec β) (bs : Bytes) :
    Dec.pair d1 d2 bs = (d1 bs).bind fun p => Dec.map (Prod.mk p.1) d2 p.2 := by
  unfold Dec.pair Dec.map; cases d1 bs <;> rfl

theorem Dec.rep_succ {α} (d : Dec α) (n : Nat) (bs : Bytes) :
    Dec.rep d (n + 1) bs = (d bs).bind fun p => Dec.map (p.1 :: ·) (Dec.rep d n) p.2 := by
  simp only [Dec.rep, Dec.map]
  cases d bs with
  | none => rfl
  | some p => simp only [Option.bind]; cases Dec.rep d n p.2 <;> rfl

theorem decVec_eq_bind {α} (d : Dec α) (bs : Bytes) : decVec d bs = (decCompact bs).bind fun p => Dec.rep d p.1 p.2 := by
  unfold decVec; cases decCompact bs <;> rfl

theorem decStr_eq_bind (bs : Bytes) : decStr bs = (decCompact bs).bind fun p => Dec.filter validUtf8 (take? p.1) p.2 := by
  unfold decStr Dec.filter
  cases decCompact bs with
  | none => rfl
  | some p => simp only [Option.bind]; cases take? p.1 p.2 <;> rfl

theorem decPrim_eq_bind (bs : Bytes) : decPrim bs = (decU8 bs).bind fun p => (primOfTag p.1).map (·, p.2) := by
  unfold decPrim
  cases decU8 bs with
  | none => rfl
  | some p => simp only [Option.bind]; cases primOfTag p.1 <;> rfl

theorem u8_eq_of_toNat (b : UInt8) (n : Nat) (h : b.toNat = n) : b = UInt8.ofNat n := by
  rw [← h, UInt8.ofNat_toNat]

section
variable {α β : Type} {e : α → Bytes} {d : Dec α} {ok : α → Prop}

theorem Good.map_eq_some (g : Good e d ok) (f : α → β) (bs : Bytes) (y : β) (rest : Bytes) :
    Dec.map f d bs = some (y, rest) ↔ ∃ a, (ok a ∧ bs = e a ++ rest) ∧ f a = y := by
  simp only [Dec.map_eq_some, g _ _ _]

theorem Good.arm_rt (g : Good e d ok) (f : α → β) (a : α) (rest : Bytes) (h : ok a) :
    Dec.map f d (e a ++ rest) = some (f a, rest) :=
  (g.map_eq_some f _ _ _).2 ⟨a, ⟨h, rfl⟩, rfl⟩

theorem Good.arm (g : Good e d ok) (f : α → β) {tag : UInt8} {k : Nat} (ht : tag.toNat = k) {t rest : Bytes} {y : β}
    (h : Dec.map f d t = some (y, rest)) : ∃ a, y = f a ∧ ok a ∧ tag :: t = UInt8.ofNat k :: (e a ++ rest) := by
  obtain ⟨a, ⟨o, rfl⟩, rfl⟩ := (g.map_eq_some f _ _ _).1 h
  exact ⟨a, rfl, o, by rw [u8_eq_of_toNat tag k ht]⟩

theorem Good.filter (g : Good e d ok) (p : α → Bool) : Good e (Dec.filter p d) (fun x => ok x ∧ p x = true) := by
  intro bs x rest
  rw [Dec.filter_eq_some, g, and_right_comm]

/-- dependent sequencing: the first value `a` selects the second decoder, and can be read off the final value (`key`) -/
theorem Good.seq {e1 : α → Bytes} {d1 : Dec α} {ok1 : α → Prop} (g1 : Good e1 d1 ok1) (key : β → α)
    {e2 : β → Bytes} {d2 : α → Dec β} {ok2 : β → Prop} (g2 : ∀ a, Good e2 (d2 a) (fun b => key b = a ∧ ok2 b))
    {dec : Dec β} (hdec : ∀ bs, dec bs = (d1 bs).bind fun p => d2 p.1 p.2) :
    Good (fun b => e1 (key b) ++ e2 b) dec (fun b => ok1 (key b) ∧ ok2 b) := by
  intro bs y rest
  simp only [hdec, Option.bind_eq_some_iff, Prod.exists, g1 _ _ _, g2 _ _ _ _, List.append_assoc]
  constructor
  · rintro ⟨_, _, ⟨o1, rfl⟩, ⟨rfl, o2⟩, rfl⟩; exact ⟨⟨o1, o2⟩, rfl⟩
  · rintro ⟨⟨o1, o2⟩, rfl⟩; exact ⟨_, _, ⟨o1, rfl⟩, ⟨rfl, o2⟩, rfl⟩

theorem Good.pair {e1 : α → Bytes} {d1 : Dec α} {ok1 : α → Prop} {e2 : β → Bytes} {d2 : Dec β} {ok2 : β → Prop}
    (g1 : Good e1 d1 ok1) (g2 : Good e2 d2 ok2) :
    Good (fun x : α × β => e1 x.1 ++ e2 x.2) (Dec.pair d1 d2) (fun x => ok1 x.1 ∧ ok2 x.2) := by
  refine g1.seq Prod.fst (e2 := fun x => e2 x.2) (d2 := fun a => Dec.map (Prod.mk a) d2) (fun a bs x rest => ?_)
    (Dec.pair_eq_bind d1 d2)
  rw [g2.map_eq_some]
  constructor
  · rintro ⟨b, h, rfl⟩; exact ⟨⟨rfl, h.1⟩, h.2⟩
  · rintro ⟨⟨rfl, o⟩, h⟩; exact ⟨x.2, ⟨o, h⟩, rfl⟩

theorem Good.iso (g : Good e d ok) (f : α → β) (inv : β → α) (h1 : ∀ a, inv (f a) = a) (h2 : ∀ b, f (inv b) = b)
    {enc' : β → Bytes} {ok' : β → Prop} (he : ∀ b, enc' b = e (inv b)) (hok : ∀ b, ok' b ↔ ok (inv b)) :
    Good enc' (Dec.map f d) ok' := by
  intro bs y rest
  rw [g.map_eq_some, he, hok]
  constructor
  · rintro ⟨a, h, rfl⟩; rwa [h1]
  · intro h; exact ⟨inv y, h, h2 y⟩
end

theorem decLe_cons (k : Nat) (b : UInt8) (t : Bytes) :
    decLe (k + 1) (b :: t) = (decLe k t).map fun p => (b.toNat + 256 * p.1, p.2) := by
  simp only [decLe]; cases decLe k t <;> rfl

theorem decLe_le (k : Nat) : ∀ n rest, n < 256 ^ k → decLe k (le k n ++ rest) = some (n, rest) := by
  induction k with
  | zero => intro n rest h; obtain rfl : n = 0 := Nat.lt_one_iff.1 h; rfl
  | succ k ih =>
    intro n rest h
    have h' : n / 256 < 256 ^ k := by omega
    simp only [le, List.cons_append, decLe_cons, ih _ rest h', UInt8.toNat_ofNat', Nat.mod_mod, Option.map_some]
    congr 2
    omega

theorem decLe_canon (k : Nat) : ∀ bs x rest, decLe k bs = some (x, rest) → x < 256 ^ k ∧ bs = le k x ++ rest := by
  induction k with
  | zero => intro bs x rest h; cases h; exact ⟨Nat.one_pos, rfl⟩
  | succ k ih =>
    intro bs x rest h
    cases bs with
    | nil => cases h
    | cons b t =>
      rw [decLe_cons] at h
      obtain ⟨⟨v, rest'⟩, heq, e⟩ := Option.map_eq_some_iff.1 h
      cases e
      obtain ⟨hv, ht⟩ := ih _ _ _ heq
      have hb := UInt8.toNat_lt b
      refine ⟨by rw [Nat.pow_succ]; omega, ?_⟩
      have h1 : (b.toNat + 256 * v) % 256 = b.toNat := by omega
      have h2 : (b.toNat + 256 * v) / 256 = v := by omega
      rw [le, h1, h2, UInt8.ofNat_toNat, ht, List.cons_append]

theorem le_length (k : Nat) : ∀ n, (le k n).length = k := by
  induction k with
  | zero => intro n; rfl
  | succ k ih => intro n; simp [le, ih]

theorem good_le (k : Nat) : Good (le k) (decLe k) (· < 256 ^ k) :=
  .of (decLe_le k) (decLe_canon k)

theorem good_u8 : Good encU8 decU8 (· < 256) := good_le 1
theorem good_u32 : Good encU32 decU32 (· < 4294967296) := good_le 4

theorem le_succ (k n : Nat) : le (k + 1) n = UInt8.ofNat (n % 256) :: le k (n / 256) := rfl

theorem head_le_mod4 (m : Nat) : (UInt8.ofNat (m % 256)).toNat % 4 = m % 4 := by
  rw [UInt8.toNat_ofNat', Nat.mod_mod, Nat.mod_mod_of_dvd _ (by decide)]

theorem head_mode (x k : Nat) (hk : k < 4) : (UInt8.ofNat ((4 * x + k) % 256)).toNat % 4 = k := by
  rw [head_le_mod4, Nat.mul_add_mod, Nat.mod_eq_of_lt hk]

/-- the one-, two- and four-byte forms share one shape: mode `k` in the low two bits of `w + 1` bytes holding `4 * x + k` -/
theorem shifted_eq_some (w k lo hi : Nat) (hhi : 256 ^ (w + 1) = 4 * hi) (b : UInt8) (t : Bytes) (hb : b.toNat % 4 = k)
    (x : Nat) (rest : Bytes) :
    Dec.filter (fun n => lo ≤ n) (Dec.map (· / 4) (decLe (w + 1))) (b :: t) = some (x, rest) ↔
      (lo ≤ x ∧ x < hi) ∧ b :: t = le (w + 1) (4 * x + k) ++ rest := by
  rw [Dec.filter_eq_some, (good_le (w + 1)).map_eq_some]
  simp only [decide_eq_true_eq]
  constructor
  · rintro ⟨⟨v, ⟨hv, hbs⟩, rfl⟩, hlo⟩
    have hk : v % 4 = k := by rw [← hb, (List.cons.inj hbs).1, head_le_mod4]
    have e : 4 * (v / 4) + k = v := hk ▸ Nat.div_add_mod v 4
    rw [e]
    exact ⟨⟨hlo, Nat.div_lt_of_lt_mul (hhi ▸ hv)⟩, hbs⟩
  · rintro ⟨⟨hlo, hlt⟩, hbs⟩
    exact ⟨⟨4 * x + k, ⟨by omega, hbs⟩, by omega⟩, hlo⟩

/-- the decoder's one-byte arm, put in that shape -/
theorem shifted_one (b : UInt8) (t : Bytes) :
    Dec.filter (fun n => 0 ≤ n) (Dec.map (· / 4) (decLe 1)) (b :: t) = some (b.toNat / 4, t) := by
  simp [Dec.filter, Dec.map, decLe]

theorem decCompact_three (rest : Bytes) :
    decCompact (3 :: rest) = Dec.filter (fun n => 1073741824 ≤ n) (decLe 4) rest := rfl

theorem decCompact_enc (n : Nat) (rest : Bytes) (h : n < 4294967296) :
    decCompact (encCompact n ++ rest) = some (n, rest) := by
  unfold encCompact
  split
  · have hm : (UInt8.ofNat (4 * n % 256)).toNat % 4 = 0 := head_mode n 0 (by decide)
    rw [le_succ, List.cons_append]
    simp only [decCompact, hm]
    rw [← shifted_one]
    exact (shifted_eq_some 0 0 0 64 rfl _ _ hm n rest).2 ⟨⟨Nat.zero_le _, ‹_›⟩, rfl⟩
  split
  · have hm := head_mode n 1 (by decide)
    rw [le_succ, List.cons_append]
    simp only [decCompact, hm]
    exact (shifted_eq_some 1 1 64 16384 rfl _ _ hm n rest).2 ⟨⟨Nat.le_of_not_lt ‹_›, ‹_›⟩, rfl⟩
  split
  · have hm := head_mode n 2 (by decide)
    rw [le_succ, List.cons_append]
    simp only [decCompact, hm]
    exact (shifted_eq_some 3 2 16384 1073741824 rfl _ _ hm n rest).2 ⟨⟨Nat.le_of_not_lt ‹_›, ‹_›⟩, rfl⟩
  · rw [List.cons_append, decCompact_three]
    exact ((good_le 4).filter _ _ n rest).2 ⟨⟨h, decide_eq_true (Nat.le_of_not_lt ‹_›)⟩, rfl⟩

theorem decCompact_canon (bs : Bytes) (x : Nat) (rest : Bytes) (h : decCompact bs = some (x, rest)) :
    x < 4294967296 ∧ bs = encCompact x ++ rest := by
  cases bs with
  | nil => simp [decCompact] at h
  | cons b t =>
    simp only [decCompact] at h
    split at h
    · rename_i h0
      rw [← shifted_one] at h
      obtain ⟨⟨-, hlt⟩, hbs⟩ := (shifted_eq_some 0 0 0 64 rfl b t h0 x rest).1 h
      exact ⟨by omega, by simp only [encCompact, hlt, if_true]; exact hbs⟩
    · rename_i h1
      obtain ⟨⟨hlo, hlt⟩, hbs⟩ := (shifted_eq_some 1 1 64 16384 rfl b t h1 x rest).1 h
      exact ⟨by omega, by simp only [encCompact, Nat.not_lt.2 hlo, hlt, if_true, if_false]; exact hbs⟩
    · rename_i h2
      obtain ⟨⟨hlo, hlt⟩, hbs⟩ := (shifted_eq_some 3 2 16384 1073741824 rfl b t h2 x rest).1 h
      have h64 : ¬ x < 64 := by omega
      exact ⟨by omega, by simp only [encCompact, h64, Nat.not_lt.2 hlo, hlt, if_true, if_false]; exact hbs⟩
    · split at h
      · rename_i h3
        obtain ⟨⟨hlt, hlo⟩, hbs⟩ := ((good_le 4).filter _ _ _ _).1 h
        have hlo := of_decide_eq_true hlo
        have h64 : ¬ x < 64 := by omega
        have h16 : ¬ x < 16384 := by omega
        refine ⟨hlt, ?_⟩
        simp only [encCompact, h64, h16, Nat.not_lt.2 hlo, if_false, List.cons_append, u8_eq_of_toNat b 3 h3, hbs]
        rfl
      · cases h

theorem good_compact : Good encCompact decCompact (· < 4294967296) := .of decCompact_enc decCompact_canon

theorem encCompact_length (n : Nat) :
    (encCompact n).length = if n < 64 then 1 else if n < 16384 then 2 else if n < 1073741824 then 4 else 5 := by
  simp only [encCompact, apply_ite List.length, le_length, List.length_cons]

section
variable {α : Type} {e : α → Bytes} {d : Dec α} {ok : α → Prop}

theorem Good.opt (g : Good e d ok) : Good (encOpt e) (decOpt d) (fun o => ∀ a, o = some a → ok a) := by
  refine .of (fun x rest h => ?_) (fun bs x rest h => ?_)
  · cases x with
    | none => rfl
    | some a => exact g.arm_rt some a rest (h a rfl)
  · cases bs with
    | nil => cases h
    | cons b t =>
      simp only [decOpt] at h
      split at h
      · rename_i h0
        cases h
        exact ⟨nofun, by rw [u8_eq_of_toNat b 0 h0]; rfl⟩
      split at h
      · obtain ⟨a, rfl, o, e⟩ := g.arm some ‹_› h
        exact ⟨fun _ h => Option.some.inj h ▸ o, e⟩
      · cases h

theorem good_rep (g : Good e d ok) :
    ∀ n, Good (fun l : List α => l.flatMap e) (Dec.rep d n) (fun l => l.length = n ∧ ∀ x ∈ l, ok x) := by
  intro n
  induction n with
  | zero =>
    intro bs l rest
    simp only [Dec.rep, Option.some.injEq, Prod.mk.injEq, List.length_eq_zero_iff]
    constructor
    · rintro ⟨rfl, rfl⟩; exact ⟨⟨rfl, nofun⟩, rfl⟩
    · rintro ⟨⟨rfl, _⟩, rfl⟩; exact ⟨rfl, rfl⟩
  | succ n ih =>
    intro bs l rest
    simp only [Dec.rep_succ, Option.bind_eq_some_iff, Prod.exists, g _ _ _, ih.map_eq_some]
    constructor
    · rintro ⟨a, _, ⟨oa, rfl⟩, as, ⟨⟨rfl, oas⟩, rfl⟩, rfl⟩
      exact ⟨⟨rfl, List.forall_mem_cons.2 ⟨oa, oas⟩⟩, by simp⟩
    · rintro ⟨⟨hl, ol⟩, rfl⟩
      cases l with
      | nil => cases hl
      | cons a as =>
        have ⟨oa, oas⟩ := List.forall_mem_cons.1 ol
        exact ⟨a, _, ⟨oa, by simp⟩, as, ⟨⟨Nat.succ.inj hl, oas⟩, rfl⟩, rfl⟩

theorem Good.vec (g : Good e d ok) :
    Good (encVec e) (decVec d) (fun l => l.length < 4294967296 ∧ ∀ x ∈ l, ok x) :=
  good_compact.seq List.length (good_rep g) (decVec_eq_bind d)
end

theorem good_take (n : Nat) : Good id (take? n) (fun s => s.length = n) := by
  intro bs s rest
  unfold take?
  split
  · rename_i hle
    constructor
    · rintro ⟨rfl, rfl⟩; exact ⟨by simp [hle], (List.take_append_drop n bs).symm⟩
    · rintro ⟨rfl, rfl⟩; simp
  · rename_i hle
    constructor
    · nofun
    · rintro ⟨rfl, rfl⟩; simp at hle

theorem good_str : Good encStr decStr okStr :=
  good_compact.seq List.length (fun n => (good_take n).filter validUtf8) decStr_eq_bind

theorem good_id : Good encCompact decCompact okId := good_compact

theorem good_optStr : Good (encOpt encStr) (decOpt decStr) okOptStr :=
  good_str.opt.congr (by intro x; cases x <;> simp [okOptStr])

theorem good_strs : Good (encVec encStr) (decVec decStr) okStrs := good_str.vec

theorem good_field : Good encField decField okField :=
  (good_optStr.pair (good_id.pair (good_optStr.pair good_strs))).iso _
    (fun f => (f.name, f.ty, f.typeName, f.docs)) (fun _ => rfl) (fun _ => rfl)
    (by intro b; simp [encField]) (fun _ => Iff.rfl)

theorem good_fields : Good (encVec encField) (decVec decField) okFields := good_field.vec

theorem good_variant : Good encVariant decVariant okVariant :=
  (good_str.pair (good_fields.pair (good_u8.pair good_strs))).iso _
    (fun v => (v.name, v.fields, v.index, v.docs)) (fun _ => rfl) (fun _ => rfl)
    (by intro b; simp [encVariant]) (fun _ => Iff.rfl)

theorem good_param : Good encParam decParam okParam :=
  (good_str.pair good_id.opt).iso _
    (fun p => (p.name, p.ty)) (fun _ => rfl) (fun _ => rfl)
    (by intro b; simp [encParam])
    (by intro b; rcases b with ⟨n, t⟩; cases t <;> simp [okParam])

theorem primOfTag_eq_some (n : Nat) (p : Prim) : primOfTag n = some p ↔ primTag p = n := by
  constructor
  · intro h
    unfold primOfTag at h
    split at h <;> cases h <;> rfl
  · rintro rfl
    cases p <;> rfl

theorem primTag_lt (p : Prim) : primTag p < 15 := by
  cases p <;> decide

theorem primOfTag_none (n : Nat) (h : 15 ≤ n) : primOfTag n = none := by
  cases hp : primOfTag n with
  | none => rfl
  | some p => have := primTag_lt p; rw [(primOfTag_eq_some n p).1 hp] at this; omega

theorem good_prim : Good (fun p => encU8 (primTag p)) decPrim (fun _ => True) := by
  intro bs p rest
  simp only [decPrim_eq_bind, Option.bind_eq_some_iff, Option.map_eq_some_iff, Prod.exists, Prod.mk.injEq,
    good_u8 _ _ _, primOfTag_eq_some, true_and]
  constructor
  · rintro ⟨_, _, ⟨_, rfl⟩, _, rfl, rfl, rfl⟩; rfl
  · rintro rfl; exact ⟨_, _, ⟨by have := primTag_lt p; omega, rfl⟩, p, rfl, rfl, rfl⟩

theorem good_typeDef : Good encTypeDef decTypeDef okTypeDef := by
  refine .of (fun d rest h => ?_) (fun bs d rest h => ?_)
  · cases d with
    | composite fs => exact good_fields.arm_rt TypeDef.composite fs rest h
    | variant vs => exact good_variant.vec.arm_rt TypeDef.variant vs rest h
    | sequence t => exact good_id.arm_rt TypeDef.sequence t rest h
    | array n t => exact (good_u32.pair good_id).arm_rt (fun x => TypeDef.array x.1 x.2) (n, t) rest h
    | tuple ts => exact good_id.vec.arm_rt TypeDef.tuple ts rest h
    | primitive p => exact good_prim.arm_rt TypeDef.primitive p rest h
    | compact t => exact good_id.arm_rt TypeDef.compact t rest h
    | bitSequence s o => exact (good_id.pair good_id).arm_rt (fun x => TypeDef.bitSequence x.1 x.2) (s, o) rest h
  · cases bs with
    | nil => cases h
    | cons tag t =>
      simp only [decTypeDef] at h
      split at h
      · obtain ⟨a, rfl, o, e⟩ := good_fields.arm _ ‹_› h; exact ⟨o, e⟩
      · obtain ⟨a, rfl, o, e⟩ := good_variant.vec.arm _ ‹_› h; exact ⟨o, e⟩
      · obtain ⟨a, rfl, o, e⟩ := good_id.arm _ ‹_› h; exact ⟨o, e⟩
      · obtain ⟨a, rfl, o, e⟩ := (good_u32.pair good_id).arm _ ‹_› h; exact ⟨o, e⟩
      · obtain ⟨a, rfl, o, e⟩ := good_id.vec.arm _ ‹_› h; exact ⟨o, e⟩
      · obtain ⟨a, rfl, o, e⟩ := good_prim.arm _ ‹_› h; exact ⟨o, e⟩
      · obtain ⟨a, rfl, o, e⟩ := good_id.arm _ ‹_› h; exact ⟨o, e⟩
      · obtain ⟨a, rfl, o, e⟩ := (good_id.pair good_id).arm _ ‹_› h; exact ⟨o, e⟩
      · cases h

theorem good_ty : Good encTy decTy okTy :=
  (good_strs.pair (good_param.vec.pair (good_typeDef.pair good_strs))).iso _
    (fun t => (t.path, t.params, t.def_, t.docs)) (fun _ => rfl) (fun _ => rfl)
    (by intro b; simp [encTy]) (fun _ => Iff.rfl)

theorem good_ptype : Good encPType decPType okPType :=
  (good_id.pair good_ty).iso _
    (fun p => (p.id, p.ty)) (fun _ => rfl) (fun _ => rfl)
    (by intro b; simp [encPType]) (fun _ => Iff.rfl)

theorem good_registry : Good encode decode Bounded := good_ptype.vec

/-! `Bounded` is decidable: a concrete registry is checked by evaluation. -/

instance (s : Str) : Decidable (okStr s) := by unfold okStr; infer_instance
instance (l : List Str) : Decidable (okStrs l) := by unfold okStrs; infer_instance
instance : (o : Option Str) → Decidable (okOptStr o)
  | none => isTrue trivial
  | some s => inferInstanceAs (Decidable (okStr s))
instance (n : Nat) : Decidable (okId n) := by unfold okId; infer_instance
instance (f : Field Nat) : Decidable (okField f) := by unfold okField; infer_instance
instance (l : List (Field Nat)) : Decidable (okFields l) := by unfold okFields; infer_instance
instance (v : Variant Nat) : Decidable (okVariant v) := by unfold okVariant; infer_instance
instance (d : TypeDef Nat) : Decidable (okTypeDef d) := by cases d <;> unfold okTypeDef <;> infer_instance
instance (p : TypeParam Nat) : Decidable (okParam p) := by unfold okParam; split <;> infer_instance
instance (t : Ty Nat) : Decidable (okTy t) := by unfold okTy; infer_instance
instance (p : PType) : Decidable (okPType p) := by unfold okPType; infer_instance
instance (r : PortableRegistry) : Decidable (Bounded r) := by unfold Bounded; infer_instance

end Codec
end SIM
