-- the whole library: `lake build` checks every property module (and through them the lemma layer)
import SIM.Props.C01
import SIM.Props.C02
import SIM.Props.C03
import SIM.Props.C03glue
import SIM.Props.C04
import SIM.Props.C04guard
import SIM.Props.C04impls
import SIM.Props.C04names
import SIM.Props.C05
import SIM.Props.C05alias
import SIM.Props.C05impls
import SIM.Props.C06
import SIM.Props.C06tags
import SIM.Props.C07
import SIM.Props.C08
import SIM.Props.C08junk
import SIM.Props.C08pos
import SIM.Props.C08serde
import SIM.Props.C09
import SIM.Props.C10
import SIM.Props.C10canon
import SIM.Props.C11
import SIM.Props.C11canon
import SIM.Props.C12
import SIM.Props.C13
import SIM.Props.C14
import SIM.Props.C14json
import SIM.Props.C14size
import SIM.Props.C15
import SIM.Props.C16
import SIM.Props.C16impls
import SIM.Props.C17
import SIM.Props.C18
import SIM.Props.C18ident
import SIM.Props.C19
import SIM.Props.C20
import SIM.Props.C20capture
import SIM.Props.C20sigs
