/-
  C18 (tie to the source by translation): the identifier rule of the model (SIM.Model.Path: ASCII guard, one `r#` prefix stripped,
  `head_ok && tail_ok`, empty string rejected) is the reading of `is_rust_identifier` in /repo/src/utils.rs, whose guard, prefix
  literal and disjuncts are re-extracted on every run (SIM.Extracted.Ident, translators/extract_ident_rule.py).
-/
import SIM.Extracted.Ident
import SIM.Model.IdentExpected
import SIM.Model.Path
import SIM.Lemmas.Ident
namespace SIM
namespace C18
open PathM

theorem extracted_ident_ok :
    Extracted.Ident.asciiGuard = Expected.Ident.asciiGuard ∧ Extracted.Ident.rawPrefix = Expected.Ident.rawPrefix ∧
    Extracted.Ident.headAtoms = Expected.Ident.headAtoms ∧ Extracted.Ident.tailAtoms = Expected.Ident.tailAtoms ∧
    Extracted.Ident.combine = Expected.Ident.combine ∧ Extracted.Ident.emptyResult = Expected.Ident.emptyResult := ⟨rfl, rfl, rfl, rfl, rfl, rfl⟩

/-- an atom (`atomHolds`) is `x == b'c'` or one of Rust's `u8::is_ascii_lowercase / uppercase / digit` classes -/
theorem head_is_source (b : UInt8) : headOk b = Expected.Ident.headAtoms.any (atomHolds · b) := by
  have e : Expected.Ident.headAtoms = [(aEq, 95), (aLower, 0), (aUpper, 0)] := rfl
  simp [e, headOk, atom_eq, atom_lower, atom_upper, beq_eq_toNat_beq, Bool.or_assoc]

theorem tail_is_source (b : UInt8) : tailOk b = Expected.Ident.tailAtoms.any (atomHolds · b) := by
  have e : Expected.Ident.tailAtoms = [(aEq, 95), (aLower, 0), (aUpper, 0), (aDigit, 0)] := rfl
  simp [e, tailOk, atom_eq, atom_lower, atom_upper, atom_digit, beq_eq_toNat_beq, Bool.or_assoc]

theorem strip_is_source (s : Str) :
    trimRaw s = if Expected.Ident.rawPrefix.isPrefixOf s then s.drop Expected.Ident.rawPrefix.length else s := by
  unfold trimRaw stripRawOnce
  split
  · rfl
  next h =>
    rw [if_neg]
    intro hp
    obtain ⟨t, rfl⟩ := List.isPrefixOf_iff_prefix.1 hp
    exact h t rfl

/-- the whole rule read from the table: guard, strip, split_first, `head_ok && tail_ok`; empty: the table's answer -/
theorem rule_is_source (s : Str) :
    isRustIdentifier s =
      (if Expected.Ident.asciiGuard && !s.all isAscii then false
       else match (if Expected.Ident.rawPrefix.isPrefixOf s then s.drop Expected.Ident.rawPrefix.length else s) with
         | [] => Expected.Ident.emptyResult
         | h :: t => Expected.Ident.headAtoms.any (atomHolds · h) && t.all (fun c => Expected.Ident.tailAtoms.any (atomHolds · c))) := by
  have eg : Expected.Ident.asciiGuard = true := rfl
  have ee : Expected.Ident.emptyResult = false := rfl
  rw [← strip_is_source s, eg, ee]
  unfold isRustIdentifier
  simp only [Bool.true_and]
  cases trimRaw s with
  | nil => rfl
  | cons h t =>
    rw [identBody, head_is_source, funext tail_is_source]

/-- `head_ok&&tail_ok` -/
theorem combine_is : Expected.Ident.combine = [104, 101, 97, 100, 95, 111, 107, 38, 38, 116, 97, 105, 108, 95, 111, 107] := rfl

example : isRustIdentifier [114, 35, 97] = true ∧ isRustIdentifier [114, 35, 114, 35, 97] = false ∧ isRustIdentifier [] = false := by decide

end C18
end SIM
