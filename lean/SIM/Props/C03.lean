/-
  C03 — the derived `TypeInfo` describes exactly the bytes the derived `Encode` writes: every value of a derived (or
  built-in) type is well typed against any registry that describes the types faithfully, hence a decoder that knows only
  the registry and the SCALE rules reads it back exactly. `#[codec(encoded_as)]` is the boundary (counterexample).

  `FaithfulD.idClosed` lets the statements reach a user type through its aliases: `S` may hold only `Box<Adt>`, and
  `FaithfulD.decls` constrains a declaration only when `.adt n a` itself belongs to `S`. A registry is keyed by
  identities, so every set of registered types is closed in this way.
-/
import SIM.Lemmas.ValueD
import SIM.Props.C04
namespace SIM
namespace C03
open Value Spec Impls Derive

theorem derived_typed (docs : Bool) (env : TyExpr → Option Decl) (S : TyExpr → Prop) (reg : PortableRegistry) (idOf : TyExpr → Nat)
    (hf : FaithfulD docs env S reg idOf) (t : TyExpr) (v : Val) (hs : S t) (hv : ValOfD env t v) : HasTy reg (idOf t) v :=
  derived_typed_aux hf t v hv (DescD.of hs)

/-- for a set that holds no alias `hf.idClosed` says nothing; `hid` is not used -/
theorem derived_typed_of_no_alias (docs : Bool) (env : TyExpr → Option Decl) (S : TyExpr → Prop) (reg : PortableRegistry)
    (idOf : TyExpr → Nat) (hf : FaithfulD docs env S reg idOf) (hid : ∀ t, S t → identity t = t)
    (t : TyExpr) (v : Val) (hs : S t) (hv : ValOfD env t v) : HasTy reg (idOf t) v :=
  derived_typed docs env S reg idOf hf t v hs hv

/-- for every instantiation and value of every declaration without `encoded_as`, for whose members `FieldValsD` has no rule -/
theorem derived_roundtrip (docs : Bool) (env : TyExpr → Option Decl) (S : TyExpr → Prop) (reg : PortableRegistry) (idOf : TyExpr → Nat)
    (hf : FaithfulD docs env S reg idOf) (t : TyExpr) (v : Val) (hs : S t) (hv : ValOfD env t v) (rest : Codec.Bytes) :
    ∃ fuel, decodeVal reg fuel (idOf t) (encode v ++ rest) = some (v, rest) :=
  C04.decode_encode reg (idOf t) v (derived_typed docs env S reg idOf hf t v hs hv) rest

/-- `variantIndex v i` is the index in the metadata (`C09.variant_index_after_filter`); the hypotheses that tie `v` and `i` to a
    declaration are not used -/
theorem derived_variant_first_byte (env : TyExpr → Option Decl) (n : Nat) (a : TyExpr) (d : Decl) (vars : List VariantD) (i : Nat) (v : VariantD)
    (vs : List (Option Str × Val)) (hb : d.body = .enum vars) (hi : (vars.filter (fun x => !x.skip))[i]? = some v) :
    (encode (.variant v.ident (variantIndex v i) vs)).head? = some (UInt8.ofNat (variantIndex v i)) :=
  C04.variant_index_first_byte _ _ _

/-- that skipped members are not encoded either is `FieldValsD.skip` -/
theorem skipped_not_described (tn : Str → Str) (docs : Bool) (c : Capture) (fs : List FieldD) :
    ∀ m ∈ membersExpected tn docs c fs, ∃ f ∈ fs, f.skip = false ∧ m.ty = (if f.compact then TyExpr.compact f.ty else f.ty) := by
  intro m hm
  obtain ⟨f, hf, hskip, -, rfl⟩ := Derive.mem_membersExpected.1 hm
  exact ⟨f, hf, hskip, rfl⟩

/-- `struct S { b: u32 }` as the derive describes it -/
def encodedAsReg : PortableRegistry :=
  [⟨0, {path := [], params := [], def_ := .composite [{name := some [98], ty := 1, typeName := none, docs := []}], docs := []}⟩,
   ⟨1, Build.ofDef (.primitive .u32)⟩]

/-- `#[codec(encoded_as = "<u32 as HasCompact>::Type")]` is ignored by the derive: the description (plain u32, 4 bytes) does not
    read what the codec writes (compact, 1 byte for 1) -/
theorem encoded_as_counterexample :
    ∃ (reg : PortableRegistry), (resolve reg 0).isSome ∧
      (∀ fuel, decodeVal reg fuel 0 (encode (.composite [(some [98], .compact 32 1)])) ≠ some (.composite [(some [98], .uint 32 1)], [])) := by
  refine ⟨encodedAsReg, rfl, ?_⟩
  have henc : encode (.composite [(some [98], .compact 32 1)]) = [4] := by decide
  rw [henc]
  intro fuel
  -- fuel 0 and 1 run out before the member is read; from 2 on the `u32` reader wants four bytes and finds one
  have hnone : decodeVal encodedAsReg fuel 0 [4] = none := by
    rcases fuel with _ | _ | k <;> rfl
  rw [hnone]
  exact nofun

end C03
end SIM
