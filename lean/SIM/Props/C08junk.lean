/-
  C08 (unknown members) — the derived readers have no `deny_unknown_fields`: a member under a key a struct does not know
  is ignored, at the front, in the middle or at the end of the known ones (`JsonM.junkOfRegistry` has it in each of these
  places). The externally tagged definition is not a struct but a one-member map: a second member there is an error.
-/
import SIM.Lemmas.JsonJunk
import SIM.Props.C07
namespace SIM
namespace C08
open JsonM

/-- `.other s` stands for an unknown member when `s` is the text of no known key, the only case in which `Key.ofText` produces it -/
theorem toRegistry_ignores_unknown (s : Str) (v : Json) (r : PortableRegistry) (h : Codec.Bounded r) :
    JsonM.toRegistry (JsonM.junkOfRegistry s v r) = .ok r :=
  deArr_map dePType (junkPType s v) r (fun p hp => dePType_junkPType s v p (h.2 p hp))

theorem def_two_members_rejected (k k' : Key) (a b : Json) : JsonM.deTypeDef (.obj [(k, a), (k', b)]) = .error .reject :=
  rfl

theorem getKey_skips_unknown (s : Str) (v : Json) (kv : List (Key × Json)) (k : Key) (h : k ≠ .other s) :
    getKey ((.other s, v) :: kv) k = getKey kv k := by
  rw [getKey_cons, if_neg (Ne.symm h)]

theorem sample_bounded : Codec.Bounded C07.sample := C07.sample_bounded

/-- the unknown member `"x": [null, 7]` in every struct -/
example : toRegistry (junkOfRegistry [120] (.arr [.null, .num 7]) C07.sample) = .ok C07.sample :=
  toRegistry_ignores_unknown [120] (.arr [.null, .num 7]) C07.sample sample_bounded

example : junkOfRegistry [120] (.arr [.null, .num 7]) C07.sample ≠ ofRegistry C07.sample := by
  simp [junkOfRegistry, ofRegistry]

/-- a valid definition plus one more member -/
example : deTypeDef (.obj [(.sequence, .obj [(.type_, .num 0)]), (.other [120], .arr [.null, .num 7])]) = .error .reject :=
  def_two_members_rejected _ _ _ _

example : deTypeDef (.obj [(.sequence, .obj [(.type_, .num 0)])]) = .ok (.sequence 0) := rfl

end C08
end SIM
