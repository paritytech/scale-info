/-
  SIM.Lemmas.JsonJunk — a writer that is `ofRegistry` with an unknown member `(.other s, v)` in every struct object (at the
  front of some, in the middle or at the end of others), but not in the one-member maps of the externally tagged definition.
  The round trips `de* (junk* x) = .ok x` are instances of the reader lemmas of `SIM.Lemmas.Json`, since `getKey` under a
  known key passes over `.other s` wherever it stands.
-/
import SIM.Lemmas.Json
namespace SIM
namespace JsonM
open Codec

/-- `ofField` with an unknown member at the front -/
def junkField (s : Str) (v : Json) (f : Field Nat) : Json :=
  match ofField f with | .obj kv => .obj ((.other s, v) :: kv) | j => j

/-- `ofVariant` with an unknown member between `fields` and `index` -/
def junkVariant (s : Str) (v : Json) (x : Variant Nat) : Json :=
  .obj ([(.name, jStr x.name)] ++ optMember (!x.fields.isEmpty) .fields (.arr (x.fields.map (junkField s v)))
    ++ [(.other s, v), (.index, .num x.index)]
    ++ optMember (!x.docs.isEmpty) .docs (jStrs x.docs))

/-- `ofTypeDef` with an unknown member in every payload struct -/
def junkTypeDef (s : Str) (v : Json) : TypeDef Nat → Json
  | .composite fs => .obj [(.composite, .obj (optMember (!fs.isEmpty) .fields (.arr (fs.map (junkField s v))) ++ [(.other s, v)]))]
  | .variant vs => .obj [(.variant, .obj ((.other s, v) :: optMember (!vs.isEmpty) .variants (.arr (vs.map (junkVariant s v)))))]
  | .sequence t => .obj [(.sequence, .obj [(.other s, v), (.type_, .num t)])]
  | .array n t => .obj [(.array, .obj [(.len, .num n), (.other s, v), (.type_, .num t)])]
  | .tuple ts => .obj [(.tuple, .arr (ts.map .num))]
  | .primitive p => .obj [(.primitive, .str (primName p))]
  | .compact t => .obj [(.compact, .obj [(.type_, .num t), (.other s, v)])]
  | .bitSequence a b => .obj [(.bitsequence, .obj [(.other s, v), (.bitStoreType, .num a), (.bitOrderType, .num b)])]

/-- `ofParam` with an unknown member in the middle -/
def junkParam (s : Str) (v : Json) (p : TypeParam Nat) : Json :=
  .obj [(.name, jStr p.name), (.other s, v), (.type_, match p.ty with | some t => .num t | none => .null)]

/-- `ofTy` with an unknown member at the front -/
def junkTy (s : Str) (v : Json) (t : Ty Nat) : Json :=
  .obj ([(.other s, v)] ++ optMember (!t.path.isEmpty) .path (jStrs t.path)
    ++ optMember (!t.params.isEmpty) .params (.arr (t.params.map (junkParam s v)))
    ++ [(.def_, junkTypeDef s v t.def_)]
    ++ optMember (!t.docs.isEmpty) .docs (jStrs t.docs))

/-- `ofPType` with an unknown member at the end -/
def junkPType (s : Str) (v : Json) (p : PType) : Json :=
  .obj [(.id, .num p.id), (.type_, junkTy s v p.ty), (.other s, v)]

/-- `ofRegistry` with an unknown member in every struct object -/
def junkOfRegistry (s : Str) (v : Json) (r : PortableRegistry) : Json :=
  .obj [(.other s, v), (.types, .arr (r.map (junkPType s v)))]

theorem deField_junkField (s : Str) (v : Json) (f : Field Nat) (h : okField f) :
    deField (junkField s v f) = .ok f := by
  obtain ⟨kv, he, -, hk⟩ := field_keys f
  have hj : junkField s v f = .obj ((.other s, v) :: kv) := by simp only [junkField, he]
  exact hj ▸ deField_of_keys (by simpa [FieldKeys, getKey_cons] using hk) h

theorem deVariant_junkVariant (s : Str) (v : Json) (x : Variant Nat) (h : okVariant x) :
    deVariant (junkVariant s v x) = .ok x :=
  deVariant_of_keys (by simp [VariantKeys, getKey_append, getKey_optMember, getKey_cons, jStrs]) (deField_junkField s v) h

theorem deTypeDef_junkTypeDef (s : Str) (v : Json) (d : TypeDef Nat) (h : okTypeDef d) :
    deTypeDef (junkTypeDef s v d) = .ok d := by
  cases d with
  | composite fs =>
    have h' : okFields fs := h
    simp only [junkTypeDef, deTypeDef, asStruct]
    rw [dflt_list deField (junkField s v) fs (by simp [getKey_append, getKey_optMember, getKey])
      fun f hf => deField_junkField s v f (h'.2 f hf)]
  | variant vs =>
    simp only [junkTypeDef, deTypeDef, asStruct]
    rw [dflt_list deVariant (junkVariant s v) vs (by simp [getKey_optMember, getKey_cons])
      fun x hx => deVariant_junkVariant s v x (h.2 x hx)]
  | sequence t | compact t =>
    have h' : t < 4294967296 := h
    simp [junkTypeDef, deTypeDef, deTypeOnly, asStruct, req, getKey, deU32, deU, h']
  | array n t | bitSequence n t =>
    have h1 : n < 4294967296 := h.1
    have h2 : t < 4294967296 := h.2
    simp [junkTypeDef, deTypeDef, asStruct, req, getKey, deU32, deU, h1, h2]
  | tuple _ | primitive _ => exact deTypeDef_ofTypeDef _ h

theorem deParam_junkParam (s : Str) (v : Json) (p : TypeParam Nat) (h : okParam p) :
    deParam (junkParam s v p) = .ok p := by
  obtain ⟨name, ty⟩ := p
  cases ty with
  | none => simp [junkParam, deParam, asStruct, req, dflt, getKey, jStr, deStr, deOpt]
  | some t =>
    have h' : t < 4294967296 := h.2
    simp [junkParam, deParam, asStruct, req, dflt, getKey, jStr, deStr, deOpt, deU32, deU, h']

theorem deTy_junkTy (s : Str) (v : Json) (t : Ty Nat) (h : okTy t) : deTy (junkTy s v t) = .ok t :=
  deTy_of_keys (by simp [TyKeys, getKey_append, getKey_optMember, getKey_cons, jStrs]) (deParam_junkParam s v)
    (deTypeDef_junkTypeDef s v) h

theorem dePType_junkPType (s : Str) (v : Json) (p : PType) (h : okPType p) :
    dePType (junkPType s v p) = .ok p := by
  have h' : p.id < 4294967296 := h.1
  simp [junkPType, dePType, asStruct, req, getKey, deU32, deU, h', deTy_junkTy s v p.ty h.2]

end JsonM
end SIM
