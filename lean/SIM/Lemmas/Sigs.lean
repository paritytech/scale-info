/-
  SIM.Lemmas.Sigs — the generic automaton over the extracted builder signatures: `stepSig` finds a method's row by unifying
  the receiver's type, `runSig` runs a program.  Each builder's reachable types are coded by a small state (`fEnc`, `vEnc`,
  `tEnc`); one evaluation of the table per builder, over all its states and methods, transfers every run to a typestate flag or
  two (`runSig_eq_some`).
-/
import SIM.Model.TypestateExpected
import SIM.Model.Typestate
namespace SIM
namespace C20
open Typestate

def bField : Str := [70, 105, 101, 108, 100, 66, 117, 105, 108, 100, 101, 114]   -- `FieldBuilder`
def bFields : Str := [70, 105, 101, 108, 100, 115, 66, 117, 105, 108, 100, 101, 114]   -- `FieldsBuilder`
def bVariant : Str := [86, 97, 114, 105, 97, 110, 116, 66, 117, 105, 108, 100, 101, 114]   -- `VariantBuilder`
def bType : Str := [84, 121, 112, 101, 66, 117, 105, 108, 100, 101, 114]   -- `TypeBuilder`
def bTy : Str := [84, 121, 112, 101]   -- `Type`
def bFieldT : Str := [70, 105, 101, 108, 100]   -- `Field`
def bVariantT : Str := [86, 97, 114, 105, 97, 110, 116]   -- `Variant`
def fMeta : Str := [77, 101, 116, 97, 70, 111, 114, 109]   -- `MetaForm`
def fPortable : Str := [80, 111, 114, 116, 97, 98, 108, 101, 70, 111, 114, 109]   -- `PortableForm`
def nNo : Str := [78, 97, 109, 101, 78, 111, 116, 65, 115, 115, 105, 103, 110, 101, 100]   -- `NameNotAssigned`
def nYes : Str := [78, 97, 109, 101, 65, 115, 115, 105, 103, 110, 101, 100]   -- `NameAssigned`
def tNo : Str := [84, 121, 112, 101, 78, 111, 116, 65, 115, 115, 105, 103, 110, 101, 100]   -- `TypeNotAssigned`
def tYes : Str := [84, 121, 112, 101, 65, 115, 115, 105, 103, 110, 101, 100]   -- `TypeAssigned`
def iNo : Str := [73, 110, 100, 101, 120, 78, 111, 116, 65, 115, 115, 105, 103, 110, 101, 100]   -- `IndexNotAssigned`
def iYes : Str := [73, 110, 100, 101, 120, 65, 115, 115, 105, 103, 110, 101, 100]   -- `IndexAssigned`
def pNo : Str := [80, 97, 116, 104, 78, 111, 116, 65, 115, 115, 105, 103, 110, 101, 100]   -- `PathNotAssigned`
def pYes : Str := [80, 97, 116, 104, 65, 115, 115, 105, 103, 110, 101, 100]   -- `PathAssigned`
def kNamed : Str := [78, 97, 109, 101, 100, 70, 105, 101, 108, 100, 115]   -- `NamedFields`
def kUnnamed : Str := [85, 110, 110, 97, 109, 101, 100, 70, 105, 101, 108, 100, 115]   -- `UnnamedFields`
def kNone : Str := [78, 111, 70, 105, 101, 108, 100, 115]   -- `NoFields`
def mName : Str := [110, 97, 109, 101]   -- `name`
def mTy : Str := [116, 121]   -- `ty`
def mCompact : Str := [99, 111, 109, 112, 97, 99, 116]   -- `compact`
def mTypeName : Str := [116, 121, 112, 101, 95, 110, 97, 109, 101]   -- `type_name`
def mDocs : Str := [100, 111, 99, 115]   -- `docs`
def mDocsAlways : Str := [100, 111, 99, 115, 95, 97, 108, 119, 97, 121, 115]   -- `docs_always`
def mDocsPortable : Str := [100, 111, 99, 115, 95, 112, 111, 114, 116, 97, 98, 108, 101]   -- `docs_portable`
def mIndex : Str := [105, 110, 100, 101, 120]   -- `index`
def mDiscriminant : Str := [100, 105, 115, 99, 114, 105, 109, 105, 110, 97, 110, 116]   -- `discriminant`
def mFields : Str := [102, 105, 101, 108, 100, 115]   -- `fields`
def mPath : Str := [112, 97, 116, 104]   -- `path`
def mTypeParams : Str := [116, 121, 112, 101, 95, 112, 97, 114, 97, 109, 115]   -- `type_params`
def mComposite : Str := [99, 111, 109, 112, 111, 115, 105, 116, 101]   -- `composite`
def mVariant : Str := [118, 97, 114, 105, 97, 110, 116]   -- `variant`
def mField : Str := [102, 105, 101, 108, 100]   -- `field`
def mFieldPortable : Str := [102, 105, 101, 108, 100, 95, 112, 111, 114, 116, 97, 98, 108, 101]   -- `field_portable`
def mFinalize : Str := [102, 105, 110, 97, 108, 105, 122, 101]   -- `finalize`

abbrev Sig := Str × List Str × Str × Str × List Str × List Str × List Str
abbrev Env := List (Str × Str)

def isVar (s : Str) : Bool := s.head? == some 63    -- `?X`

/-- unify a receiver pattern with concrete type arguments -/
def unify : List Str → List Str → Env → Option Env
  | [], [], env => some env
  | p :: ps, a :: as, env =>
    if isVar p then
      match env.lookup p with
      | some b => if b == a then unify ps as env else none
      | none => unify ps as ((p, a) :: env)
    else if p == a then unify ps as env else none
  | _, _, _ => none

def subst (env : Env) (args : List Str) : List Str := args.map (fun a => if isVar a then (env.lookup a).getD a else a)

/-- a value's type: builder name and type arguments -/
abbrev TyState := Str × List Str

/-- one method call: the first row of the receiver's type and that method whose pattern unifies -/
def stepSig (sigs : List Sig) (st : TyState) (m : Str) : Option TyState :=
  sigs.findSome? (fun r =>
    if r.1 == st.1 && r.2.2.1 == m then
      match unify r.2.1 st.2 [] with
      | some env => some (r.2.2.2.1, subst env r.2.2.2.2.1)
      | none => none
    else none)

def runSig (sigs : List Sig) : TyState → List Str → Option TyState
  | st, [] => some st
  | st, m :: ms => match stepSig sigs st m with
    | some st' => runSig sigs st' ms
    | none => none

/-- the closure bound of a method taking a builder closure: (argument type, result type), defaults filled in -/
def fillDefaults (t : List Str) : TyState :=
  match t with
  | [] => ([], [])
  | b :: args => (b, args ++ (((Expected.Typestate.defaults.lookup b).getD []).drop args.length))

def closureOf (recv : TyState) (m : Str) : Option (TyState × TyState) :=
  Expected.Typestate.sigs.findSome? (fun r =>
    if r.1 == recv.1 && r.2.2.1 == m && r.2.1 == recv.2 && !r.2.2.2.2.2.1.isEmpty then
      some (fillDefaults r.2.2.2.2.2.1, fillDefaults r.2.2.2.2.2.2)
    else none)

theorem runSig_eq_some {σ α} {sigs : List Sig} {enc : σ → TyState} {meth : α → Str} {next : σ → α → Option σ}
    (h : ∀ s a, stepSig sigs (enc s) (meth a) = (next s a).map enc) (hinj : ∀ s s', enc s = enc s' → s = s')
    (l : List α) (s s' : σ) :
    runSig sigs (enc s) (l.map meth) = some (enc s') ↔ l.foldlM next s = some s' := by
  induction l generalizing s with
  | nil => exact ⟨fun e => congrArg some (hinj _ _ (Option.some.inj e)), fun e => congrArg (some ∘ enc) (Option.some.inj e)⟩
  | cons a l ih =>
    rw [List.map_cons, runSig, h, List.foldlM_cons]
    cases next s a with
    | none => exact ⟨nofun, nofun⟩
    | some s1 => exact ih s1

/-- a typestate flag (`NameAssigned`, `TypeAssigned`, `IndexAssigned`, `PathAssigned`): the calls `hit` selects need it down and raise it -/
def flag {α} (hit : α → Bool) (b : Bool) (a : α) : Option Bool :=
  if hit a then (if b then none else some true) else some b

theorem foldlM_flag {α} (hit : α → Bool) (l : List α) (b b' : Bool) :
    l.foldlM (flag hit) b = some b' ↔ b.toNat + l.countP hit = b'.toNat := by
  induction l generalizing b with
  | nil => cases b <;> cases b' <;> simp
  | cons a l ih =>
    have := Bool.toNat_lt b'
    rw [List.foldlM_cons, List.countP_cons, flag]
    cases hit a <;> cases b <;> simp [ih] <;> omega

theorem foldlM_pair {σ τ α} (f : σ → α → Option σ) (g : τ → α → Option τ) (l : List α) (s s' : σ) (t t' : τ) :
    l.foldlM (fun st a => (f st.1 a).bind fun s1 => (g st.2 a).map fun t1 => (s1, t1)) (s, t) = some (s', t') ↔
      l.foldlM f s = some s' ∧ l.foldlM g t = some t' := by
  induction l generalizing s t with
  | nil => simp [Prod.ext_iff]
  | cons a l ih =>
    simp only [List.foldlM_cons]
    cases f s a <;> cases g t a <;> simp [ih]

theorem ite_inj {a b : Str} (h : a ≠ b) (x y : Bool) : (if x then a else b) = (if y then a else b) ↔ x = y := by
  cases x <;> cases y <;> simp [h, h.symm]

/-- `ty` also stands for `compact` -/
def fMethod (portable : Bool) : FStep → Str
  | .name => mName | .ty => mTy | .typeName => mTypeName | .docs => if portable then mDocsPortable else mDocs

def form (portable : Bool) : Str := if portable then fPortable else fMeta

def fEnc (p : Bool) (s : Bool × Bool) : TyState :=
  (bField, [form p, if s.1 then nYes else nNo, if s.2 then tYes else tNo])

def fNext (s : Bool × Bool) (c : FStep) : Option (Bool × Bool) :=
  (flag (· == .name) s.1 c).bind fun n => (flag (· == .ty) s.2 c).map fun t => (n, t)

theorem fStep_eq (p : Bool) (s : Bool × Bool) (c : FStep) :
    stepSig Expected.Typestate.sigs (fEnc p s) (fMethod p c) = (fNext s c).map (fEnc p) := by
  -- one evaluation for all 32 pairs of receiver and method: the passes over the table then share their work
  have all : ∀ p n t, ∀ c ∈ [FStep.name, .ty, .typeName, .docs],
      stepSig Expected.Typestate.sigs (fEnc p (n, t)) (fMethod p c) = (fNext (n, t) c).map (fEnc p) := by decide +kernel
  exact all p s.1 s.2 c (by cases c <;> simp)

theorem fEnc_inj (p : Bool) (s s' : Bool × Bool) (h : fEnc p s = fEnc p s') : s = s' := by
  simp only [fEnc, Prod.mk.injEq, List.cons.injEq, true_and, and_true,
    ite_inj (show nYes ≠ nNo by decide), ite_inj (show tYes ≠ tNo by decide)] at h
  exact Prod.ext h.1 h.2

def vMethod (portable : Bool) : VStep → Str
  | .index => mIndex | .discriminant => mDiscriminant | .docs => if portable then mDocsPortable else mDocs | .fields _ => mFields

def vEnc (p : Bool) (i : Bool) : TyState := (bVariant, [form p, if i then iYes else iNo])

theorem vStep_eq (p i : Bool) (c : VStep) :
    stepSig Expected.Typestate.sigs (vEnc p i) (vMethod p c) = (flag isIndex i c).map (vEnc p) := by
  -- `decide` wants closed rows: `fields` stands with an empty argument, which neither `vMethod` nor `isIndex` looks at
  have all : ∀ p i, ∀ c ∈ [VStep.index, .discriminant, .docs, .fields ⟨.unit, []⟩],
      stepSig Expected.Typestate.sigs (vEnc p i) (vMethod p c) = (flag isIndex i c).map (vEnc p) := by decide +kernel
  cases c with
  | fields _ => exact all p i (.fields ⟨.unit, []⟩) (by simp)
  | _ => exact all p i _ (by simp)

theorem vEnc_inj (p : Bool) (i i' : Bool) (h : vEnc p i = vEnc p i') : i = i' := by
  simpa only [vEnc, Prod.mk.injEq, List.cons.injEq, true_and, and_true, ite_inj (show iYes ≠ iNo by decide)] using h

def tMethod (portable : Bool) : TStep → Str
  | .path => mPath | .typeParams => mTypeParams | .docs => if portable then mDocsPortable else mDocs
  | .composite _ => mComposite | .variant _ => mVariant

/-- the path flag while it is a `TypeBuilder` (`some b`); a terminal needs the flag up and leaves a `Type` (`none`), which has no
    builder methods -/
def tNext (s : Option Bool) (c : TStep) : Option (Option Bool) :=
  s.bind fun b => if isTerminal c then (if b then some none else none) else (flag isPath b c).map some

def tEnc (p : Bool) : Option Bool → TyState
  | some b => (bType, [form p, if b then pYes else pNo])
  | none => (bTy, [form p])

theorem tStep_eq (p : Bool) (s : Option Bool) (c : TStep) :
    stepSig Expected.Typestate.sigs (tEnc p s) (tMethod p c) = (tNext s c).map (tEnc p) := by
  have all : ∀ p, ∀ s ∈ [none, some false, some true],
      ∀ c ∈ [TStep.path, .typeParams, .docs, .composite ⟨.unit, []⟩, .variant []],
        stepSig Expected.Typestate.sigs (tEnc p s) (tMethod p c) = (tNext s c).map (tEnc p) := by decide +kernel
  have hs : s ∈ [none, some false, some true] := by rcases s with _ | _ | _ <;> simp
  cases c with
  | composite _ => exact all p s hs (.composite ⟨.unit, []⟩) (by simp)
  | variant _ => exact all p s hs (.variant []) (by simp)
  | _ => exact all p s hs _ (by simp)

theorem tEnc_inj (p : Bool) (s s' : Option Bool) (h : tEnc p s = tEnc p s') : s = s' := by
  rcases s with _ | s <;> rcases s' with _ | s' <;> simp_all [tEnc, ite_inj (show pYes ≠ pNo by decide)]

theorem tRun_closed (l : List TStep) (x : Option Bool) : l.foldlM tNext none = some x ↔ l = [] ∧ x = none := by
  cases l with
  | nil => simp [eq_comm]
  | cons c l => simp [show tNext none c = none from rfl]

theorem tRun_open (l : List TStep) (b b' : Bool) :
    l.foldlM tNext (some b) = some (some b') ↔ l.all (fun c => !isTerminal c) = true ∧ l.foldlM (flag isPath) b = some b' := by
  induction l generalizing b with
  | nil => simp
  | cons c l ih =>
    rw [List.foldlM_cons, List.foldlM_cons, tNext, Option.bind_some]
    cases ht : isTerminal c
    · cases flag isPath b c <;> simp [ih, ht]
    · cases b <;> simp [tRun_closed, ht]

theorem tRun_spec (prog : List TStep) :
    prog.foldlM tNext (some false) = some none ↔
      (prog.filter isPath).length = 1 ∧ (prog.filter isTerminal).length = 1 ∧ prog.getLast?.map isTerminal = some true := by
  rcases List.eq_nil_or_concat prog with rfl | ⟨l, c, rfl⟩
  · simp
  · -- the last call closes a builder that the calls before it left open with the flag up
    have hc : ∀ x, tNext x c = some none ↔ x = some true ∧ isTerminal c = true := by
      rintro (_ | _ | _) <;> cases ht : isTerminal c <;> simp [tNext, ht]
    have hp : isTerminal c = true → isPath c = false := by cases c <;> simp [isTerminal, isPath]
    cases ht : isTerminal c
    · simp [Option.bind_eq_some_iff, hc, ht]
    · simp [Option.bind_eq_some_iff, hc, ht, hp ht, tRun_open, foldlM_flag, List.countP_eq_length_filter, and_comm]

end C20
end SIM
