/-
  SIM.Lemmas.Keys — the members of an object as the readers see them: `getKey` on the lists the writers build
  (`optMember`, `++`, `::`), the key list of such an object (a sub-list of the struct's members, in declaration order),
  and `Member`, the form of "member `k` is `v`" that covers every presentation serde accepts.
-/
import SIM.Model.Json
import SIM.Spec.JsonShape
namespace SIM
namespace JsonM
open Spec

theorem getKey_cons (k' : Key) (v : Json) (kv : List (Key × Json)) (k : Key) :
    getKey ((k', v) :: kv) k = if k' = k then some v else getKey kv k := rfl

theorem getKey_append (a b : List (Key × Json)) (k : Key) :
    getKey (a ++ b) k = (getKey a k).or (getKey b k) := by
  induction a with
  | nil => rfl
  | cons p a ih =>
    obtain ⟨k', v⟩ := p
    simp only [List.cons_append, getKey_cons]
    split
    · rfl
    · exact ih

theorem getKey_optMember (c : Bool) (k' : Key) (v : Json) (k : Key) :
    getKey (optMember c k' v) k = if c = true ∧ k' = k then some v else none := by
  cases c <;> simp [optMember, getKey]

theorem isSome_ite {α} (c : Bool) (v : α) : (if c = true then some v else none).isSome = c := by
  cases c <;> rfl

theorem keysOf_append (a b : List (Key × Json)) : keysOf (a ++ b) = keysOf a ++ keysOf b := List.map_append

theorem keysOf_optMember (c : Bool) (k : Key) (v : Json) : (keysOf (optMember c k v)).Sublist [k] := by
  cases c
  · exact List.nil_sublist _
  · exact List.Sublist.refl _

theorem eraseDups_of_nodup {α} [BEq α] [LawfulBEq α] : ∀ {l : List α}, l.Nodup → l.eraseDups = l
  | [], _ => rfl
  | a :: l, h => by
    rw [List.nodup_cons] at h
    rw [List.eraseDups_cons, List.filter_eq_self.2, eraseDups_of_nodup h.2]
    intro b hb
    simp only [ne_eq, Bool.not_eq_eq_eq_not, Bool.not_true, beq_eq_false_iff_ne]
    rintro rfl; exact h.1 hb

theorem allowed_of_sublist {kv : List (Key × Json)} {ks : List Key} (h : (keysOf kv).Sublist ks) (hn : ks.Nodup) :
    allowed kv ks = true := by
  have he := eraseDups_of_nodup (h.nodup hn)
  simp only [allowed, nodupKeys, he, Bool.and_eq_true, List.all_eq_true, List.contains_iff_mem, beq_iff_eq]
  exact ⟨fun k hk => h.subset hk, by simp [keysOf]⟩

/-- member `k` of `kv` is `v`; it may be missing when `absent` holds (a `#[serde(default)]` member holding its default) -/
def Member (kv : List (Key × Json)) (k : Key) (v : Json) (absent : Prop) : Prop :=
  getKey kv k = some v ∨ (absent ∧ getKey kv k = none)

theorem Member.of_if {kv : List (Key × Json)} {k : Key} {v : Json} {c : Bool} {absent : Prop}
    (h : getKey kv k = if c = true then some v else none) (ho : c = false → absent) : Member kv k v absent := by
  cases c
  · exact .inr ⟨ho rfl, h⟩
  · exact .inl h

end JsonM
end SIM
