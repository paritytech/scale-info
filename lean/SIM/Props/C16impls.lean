/-
  C16 / C05 / C04 / C20 (tie to the source by translation): the `type Identity = ..` declaration and the forwarding body of every
  built-in `impl TypeInfo`, the primitive table, the tuple arities, the NonZero rows and the accepted `capture_docs` values,
  re-extracted from /repo/src/impls.rs and /repo/derive/src/attr.rs on every run (SIM.Extracted.ImplTable), are the tables the
  model was written from (SIM.Expected.ImplTable); `Impls.identity`, the primitive mapping and `captureOk` are their reading.
-/
import SIM.Extracted.ImplTable
import SIM.Model.ImplTableExpected
import SIM.Model.Impls
import SIM.Model.Json
import SIM.Model.Typestate
namespace SIM
namespace C16
open Impls

theorem extracted_impls_ok :
    Extracted.ImplTable.identities = Expected.ImplTable.identities ∧ Extracted.ImplTable.primImpls = Expected.ImplTable.primImpls ∧
    Extracted.ImplTable.tupleArities = Expected.ImplTable.tupleArities ∧ Extracted.ImplTable.nonZero = Expected.ImplTable.nonZero ∧
    Extracted.ImplTable.captureDocs = Expected.ImplTable.captureDocs ∧
    Extracted.ImplTable.captureLowercased = Expected.ImplTable.captureLowercased ∧
    Extracted.ImplTable.keywords = Expected.ImplTable.keywords := ⟨rfl, rfl, rfl, rfl, rfl, rfl, rfl⟩

def sSelf : Str := [83, 101, 108, 102]   -- `Self`
def sTId : Str := [84, 58, 58, 73, 100, 101, 110, 116, 105, 116, 121]   -- `T::Identity`
def sSliceT : Str := [91, 84, 93]   -- `[T]`
def sStr : Str := [115, 116, 114]   -- `str`
def sPhId : Str := [80, 104, 97, 110, 116, 111, 109, 73, 100, 101, 110, 116, 105, 116, 121]   -- `PhantomIdentity`
def sFwdId : Str := [83, 101, 108, 102, 58, 58, 73, 100, 101, 110, 116, 105, 116, 121]   -- `Self::Identity`
def sFwdT : Str := [84]   -- `T`
def sNone_ : Str := []   -- ``
def iPrim : Str := [105, 109, 112, 108, 95, 109, 101, 116, 97, 100, 97, 116, 97, 95, 102, 111, 114, 95, 112, 114, 105, 109, 105, 116, 105, 118, 101, 115, 33]   -- `impl_metadata_for_primitives!`
def iTuple : Str := [105, 109, 112, 108, 95, 109, 101, 116, 97, 100, 97, 116, 97, 95, 102, 111, 114, 95, 116, 117, 112, 108, 101, 33]   -- `impl_metadata_for_tuple!`
def iNonZero : Str := [105, 109, 112, 108, 95, 102, 111, 114, 95, 110, 111, 110, 95, 122, 101, 114, 111, 33]   -- `impl_for_non_zero!`
def iArray : Str := [91, 84, 59, 78, 93]   -- `[T;N]`
def iDuration : Str := [68, 117, 114, 97, 116, 105, 111, 110]   -- `Duration`
def iVec : Str := [86, 101, 99, 60, 84, 62]   -- `Vec<T>`
def iVecDeque : Str := [86, 101, 99, 68, 101, 113, 117, 101, 60, 84, 62]   -- `VecDeque<T>`
def iOption : Str := [79, 112, 116, 105, 111, 110, 60, 84, 62]   -- `Option<T>`
def iResult : Str := [82, 101, 115, 117, 108, 116, 60, 84, 44, 69, 62]   -- `Result<T,E>`
def iCow : Str := [67, 111, 119, 60, 39, 115, 116, 97, 116, 105, 99, 44, 84, 62]   -- `Cow<'static,T>`
def iBTreeMap : Str := [66, 84, 114, 101, 101, 77, 97, 112, 60, 75, 44, 86, 62]   -- `BTreeMap<K,V>`
def iBTreeSet : Str := [66, 84, 114, 101, 101, 83, 101, 116, 60, 84, 62]   -- `BTreeSet<T>`
def iBinaryHeap : Str := [66, 105, 110, 97, 114, 121, 72, 101, 97, 112, 60, 84, 62]   -- `BinaryHeap<T>`
def iBox : Str := [66, 111, 120, 60, 84, 62]   -- `Box<T>`
def iRc : Str := [82, 99, 60, 84, 62]   -- `Rc<T>`
def iArc : Str := [65, 114, 99, 60, 84, 62]   -- `Arc<T>`
def iRef : Str := [38, 84]   -- `&T`
def iRefMut : Str := [38, 109, 117, 116, 84]   -- `&mutT`
def iSlice : Str := [91, 84, 93]   -- `[T]`
def iStr : Str := [115, 116, 114]   -- `str`
def iString : Str := [83, 116, 114, 105, 110, 103]   -- `String`
def iPhantom : Str := [80, 104, 97, 110, 116, 111, 109, 68, 97, 116, 97, 60, 84, 62]   -- `PhantomData<T>`
def iCompact : Str := [115, 99, 97, 108, 101, 58, 58, 67, 111, 109, 112, 97, 99, 116, 60, 84, 62]   -- `scale::Compact<T>`
def iRange : Str := [82, 97, 110, 103, 101, 60, 73, 100, 120, 62]   -- `Range<Idx>`
def iRangeIncl : Str := [82, 97, 110, 103, 101, 73, 110, 99, 108, 117, 115, 105, 118, 101, 60, 73, 100, 120, 62]   -- `RangeInclusive<Idx>`
def iBitVec : Str := [98, 105, 116, 118, 101, 99, 58, 58, 118, 101, 99, 58, 58, 66, 105, 116, 86, 101, 99, 60, 84, 44, 79, 62]   -- `bitvec::vec::BitVec<T,O>`
def iLsb0 : Str := [98, 105, 116, 118, 101, 99, 58, 58, 111, 114, 100, 101, 114, 58, 58, 76, 115, 98, 48]   -- `bitvec::order::Lsb0`
def iMsb0 : Str := [98, 105, 116, 118, 101, 99, 58, 58, 111, 114, 100, 101, 114, 58, 58, 77, 115, 98, 48]   -- `bitvec::order::Msb0`

/-- the row of the source's table: (impl target or macro, declared identity, forwarding target) -/
def declared : TyExpr → Option (Str × Str × Str)
  | .bool | .char | .uint _ | .sint _ => some (iPrim, sSelf, sNone_)
  | .str => some (iStr, sSelf, sNone_)
  | .string => some (iString, sStr, sFwdId)
  | .array _ _ => some (iArray, sSelf, sNone_)
  | .tuple0 | .tupleCons _ _ => some (iTuple, sSelf, sNone_)
  | .slice _ => some (iSlice, sSelf, sNone_)
  | .vec _ => some (iVec, sSliceT, sFwdId)
  | .vecDeque _ => some (iVecDeque, sSliceT, sFwdId)
  | .option _ => some (iOption, sSelf, sNone_)
  | .result _ _ => some (iResult, sSelf, sNone_)
  | .box_ _ => some (iBox, sTId, sFwdT)
  | .rc _ => some (iRc, sTId, sFwdT)
  | .arc _ => some (iArc, sTId, sFwdT)
  | .ref_ _ => some (iRef, sTId, sFwdT)
  | .refMut _ => some (iRefMut, sTId, sFwdT)
  | .cow _ => some (iCow, sSelf, sNone_)
  | .btreeMap _ _ => some (iBTreeMap, sSelf, sNone_)
  | .btreeSet _ => some (iBTreeSet, sSelf, sNone_)
  | .binaryHeap _ => some (iBinaryHeap, sSelf, sNone_)
  | .compact _ => some (iCompact, sSelf, sNone_)
  | .range _ => some (iRange, sSelf, sNone_)
  | .rangeIncl _ => some (iRangeIncl, sSelf, sNone_)
  | .nonZeroU _ | .nonZeroI _ => some (iNonZero, sSelf, sNone_)
  | .duration => some (iDuration, sSelf, sNone_)
  | .phantom _ => some (iPhantom, sPhId, sNone_)
  | .bitVec _ _ => some (iBitVec, sSelf, sNone_)
  | .lsb0 => some (iLsb0, sSelf, sNone_)
  | .msb0 => some (iMsb0, sSelf, sNone_)
  | .adt _ _ => none

def argT : TyExpr → TyExpr
  | .vec t | .vecDeque t | .box_ t | .rc t | .arc t | .ref_ t | .refMut t => t
  | t => t

def readIdentity (t : TyExpr) (decl : Str) : Option TyExpr :=
  if decl == sSelf then some t
  else if decl == sTId then some (identity (argT t))
  else if decl == sSliceT then some (.slice (argT t))
  else if decl == sStr then some .str
  else if decl == sPhId then some (.phantom .tuple0)
  else none

theorem declared_in_table (t : TyExpr) (r : Str × Str × Str) (h : declared t = some r) : r ∈ Expected.ImplTable.identities := by
  -- `List.contains` evaluated, `decide` on `∈` being several times slower to check; the table is fixed first, here and below,
  -- so that the instances are found once and not at every row
  have key : ∀ r, Expected.ImplTable.identities.contains r = true → r ∈ Expected.ImplTable.identities :=
    fun _ => List.contains_iff_mem.1
  cases t <;> cases h <;> exact key _ (by decide +kernel)

theorem table_complete : Expected.ImplTable.identities.length = 28 ∧ (Expected.ImplTable.identities.map (·.1)).Nodup := by
  decide +kernel

theorem identity_is_declared (t : TyExpr) (r : Str × Str × Str) (h : declared t = some r) : readIdentity t r.2.1 = some (identity t) := by
  cases t <;> cases h <;> rfl

/-- the derive emits `Identity = Self`; the hand-written impls in the corpus declare it too -/
theorem identity_adt (n : Nat) (a : TyExpr) : identity (.adt n a) = .adt n a := rfl

/-- every impl whose identity is not `Self` answers `type_info()` with the identity's, except `PhantomData<T>`, whose identity
    `PhantomData<()>` is an instance of the same impl -/
theorem aliases_forward : ∀ r ∈ Expected.ImplTable.identities, r.2.1 ≠ sSelf →
    (r.2.2 = sFwdId ∨ (r.2.2 = sFwdT ∧ r.2.1 = sTId) ∨ r.1 = iPhantom) := by
  decide

/-- the model forwards where the source does: to `Self::Identity` (first three), to `T` (the others) -/
theorem model_forwards (d : Bool) (t : TyExpr) :
    typeInfo d (.vec t) = typeInfo d (.slice t) ∧ typeInfo d (.vecDeque t) = typeInfo d (.slice t) ∧ typeInfo d .string = typeInfo d .str ∧
    typeInfo d (.box_ t) = typeInfo d t ∧ typeInfo d (.rc t) = typeInfo d t ∧ typeInfo d (.arc t) = typeInfo d t ∧
    typeInfo d (.ref_ t) = typeInfo d t ∧ typeInfo d (.refMut t) = typeInfo d t :=
  ⟨rfl, rfl, rfl, rfl, rfl, rfl, rfl, rfl⟩

theorem selves_do_not_forward : ∀ r ∈ Expected.ImplTable.identities, r.2.1 = sSelf → r.2.2 = sNone_ := by
  decide

/-- C04: the Rust primitive types map to the variant of the same name -/
theorem prim_impls_match :
    (JsonM.primName .bool, JsonM.primName .bool) ∈ Expected.ImplTable.primImpls ∧
    (JsonM.primName .char, JsonM.primName .char) ∈ Expected.ImplTable.primImpls ∧
    (JsonM.primName .str, JsonM.primName .str) ∈ Expected.ImplTable.primImpls ∧
    (∀ w, (JsonM.primName (primOfUint w), JsonM.primName (primOfUint w)) ∈ Expected.ImplTable.primImpls) ∧
    (∀ w, (JsonM.primName (primOfSint w), JsonM.primName (primOfSint w)) ∈ Expected.ImplTable.primImpls) := by
  have key : ∀ r, Expected.ImplTable.primImpls.contains r = true → r ∈ Expected.ImplTable.primImpls :=
    fun _ => List.contains_iff_mem.1
  refine ⟨key _ (by decide +kernel), key _ (by decide +kernel), key _ (by decide +kernel), ?_, ?_⟩ <;> intro w <;> cases w <;>
    exact key _ (by decide +kernel)

theorem prim_impls_complete : Expected.ImplTable.primImpls.length = 13 ∧ ∀ r ∈ Expected.ImplTable.primImpls, r.1 = r.2 := by
  decide

theorem tuple_arities : Expected.ImplTable.tupleArities = List.range 21 := by
  decide

/-- rows: (`NonZeroX`, the primitive it wraps) -/
theorem non_zero_rows :
    (∀ w, (nonZeroUName w, JsonM.primName (primOfUint w)) ∈ Expected.ImplTable.nonZero) ∧
    (∀ w, (nonZeroIName w, JsonM.primName (primOfSint w)) ∈ Expected.ImplTable.nonZero) ∧ Expected.ImplTable.nonZero.length = 10 := by
  have key : ∀ r, Expected.ImplTable.nonZero.contains r = true → r ∈ Expected.ImplTable.nonZero :=
    fun _ => List.contains_iff_mem.1
  refine ⟨?_, ?_, rfl⟩ <;> intro w <;> cases w <;> exact key _ (by decide +kernel)

/-- C20: the accepted `capture_docs` values are the source's strings, compared after lower-casing -/
theorem capture_values (v : Str) :
    Typestate.captureOk v = (Expected.ImplTable.captureDocs.map (·.1)).contains (Typestate.lower v) ∧ Expected.ImplTable.captureLowercased = true := by
  refine ⟨?_, rfl⟩
  -- both sides are the three comparisons, differently bracketed
  simp only [Typestate.captureOk, Expected.ImplTable.captureDocs, List.map, List.contains_cons, List.contains_nil, Bool.or_false,
    Bool.or_assoc]

example : declared (.vec .bool) = some (iVec, sSliceT, sFwdId) ∧ readIdentity (.vec .bool) sSliceT = some (identity (.vec .bool)) := ⟨rfl, by decide⟩
example : declared (.box_ (.vec .bool)) = some (iBox, sTId, sFwdT) ∧ identity (.box_ (.vec .bool)) = .slice .bool := ⟨rfl, rfl⟩

end C16
end SIM
