/-
  SIM.Lemmas.Derive — `str::replace` only touches spaces when pattern and replacement differ only in spaces; the declarative
  members of `SIM.Spec.Derive` as a filter and a map of named functions (`fieldExp`, `variantExp`); the builder-call lists the
  derive emits compute to them, each closure being an explicit head and a docs tail (`lastSome_tail`, `docs_tail`).
-/
import SIM.Spec.Derive
import SIM.Spec.Build
import SIM.Lemmas.Build
namespace SIM
namespace Derive
open Spec Build

theorem stripSpaces_append (a b : Str) : stripSpaces (a ++ b) = stripSpaces a ++ stripSpaces b := by
  simp [stripSpaces]

theorem stripSpaces_cons (c : UInt8) (s : Str) :
    stripSpaces (c :: s) = if c != 32 then c :: stripSpaces s else stripSpaces s := by
  simp only [stripSpaces, List.filter_cons]

theorem isPrefix_eq (pat s : Str) (h : isPrefix pat s = true) : s = pat ++ s.drop pat.length := by
  induction pat generalizing s with
  | nil => simp
  | cons a as ih =>
    cases s with
    | nil => simp [isPrefix] at h
    | cons b bs =>
      simp only [isPrefix, Bool.and_eq_true, beq_iff_eq] at h
      obtain ⟨rfl, h2⟩ := h
      have := ih bs h2
      simp only [List.length_cons, List.drop_succ_cons, List.cons_append]
      rw [← this]

theorem replaceAllFuel_spaces (pat rep : Str) (h : stripSpaces pat = stripSpaces rep) (fuel : Nat) (s : Str) :
    stripSpaces (replaceAllFuel pat rep fuel s) = stripSpaces s := by
  induction fuel generalizing s with
  | zero => rfl
  | succ n ih =>
    cases s with
    | nil => rfl
    | cons c cs =>
      simp only [replaceAllFuel]
      split
      · rename_i hc
        simp only [Bool.and_eq_true] at hc
        have hp := isPrefix_eq pat (c :: cs) hc.2
        rw [stripSpaces_append, ih, ← h, ← stripSpaces_append, ← hp]
      · rw [stripSpaces_cons, stripSpaces_cons, ih]

theorem lastSome_append {α β} (sel : α → Option β) (l1 l2 : List α) :
    lastSome sel (l1 ++ l2) = (lastSome sel l2).or (lastSome sel l1) := by
  simp [lastSome_eq]

theorem lastSome_none {α β} (sel : α → Option β) (l : List α) (h : ∀ a ∈ l, sel a = none) : lastSome sel l = none := by
  simpa [lastSome_eq] using h

theorem mapM_eq_some_map {α β} (f : α → Option β) (g : α → β) (l : List α) (h : ∀ a ∈ l, f a = some (g a)) :
    l.mapM f = some (l.map g) := by
  induction l with
  | nil => simp
  | cons a l ih =>
    rw [List.mapM_cons, h a (List.mem_cons_self ..), ih (fun x hx => h x (List.mem_cons_of_mem _ hx))]
    rfl

theorem lastSome_map {α β γ} (sel : β → Option γ) (g : α → β) (l : List α) :
    lastSome sel (l.map g) = lastSome (fun a => sel (g a)) l := by
  rw [lastSome_eq, lastSome_eq, ← List.map_reverse, List.findSome?_map]
  rfl

theorem lastSome_tail {α φ β} (sel : α → Option β) (free : φ → α) (hd : List α) (tl : List φ)
    (h : ∀ f ∈ tl, sel (free f) = none) : lastSome sel (hd ++ tl.map free) = lastSome sel hd := by
  rw [lastSome_append, lastSome_map, lastSome_none _ _ h]
  rfl

theorem docsArg_docsCall (docs : Bool) (c : Capture) (ds : List Str) :
    (lastSome (docsArg { docs := docs }) (docsCall c ds)).getD [] = capturedDocs docs c ds := by
  cases ds <;> cases c <;> cases docs <;> rfl

theorem docsCall_typeName (c : Capture) (ds : List Str) : ∀ f ∈ docsCall c ds, ∀ s, f ≠ .typeName s := by
  intro f hf s
  unfold docsCall at hf
  split at hf
  · cases hf
  · cases c with
    | never => cases hf
    | default | always => rw [List.mem_singleton.1 hf]; nofun

theorem docs_tail {α} (docs : Bool) (sel : α → Option (List Str)) (free : Build.Free → α)
    (hsel : ∀ f, sel (free f) = docsArg { docs := docs } f) (hd : List α) (hhd : lastSome sel hd = none)
    (c : Capture) (ds : List Str) :
    (lastSome sel (hd ++ (docsCall c ds).map free)).getD [] = capturedDocs docs c ds := by
  rw [lastSome_append, lastSome_map, hhd, Option.or_none, funext hsel, docsArg_docsCall]

abbrev memberTy (f : FieldD) : TyExpr := if f.compact then .compact f.ty else f.ty

def fieldExp (tn : Str → Str) (docs : Bool) (c : Capture) (f : FieldD) : Field TyExpr :=
  { name := (match f.rename with | some r => some r | none => f.ident), ty := memberTy f,
    typeName := some (tn f.tyText), docs := capturedDocs docs c f.docs }

/-- `iv.1` is the position among the variants not skipped -/
def variantExp (tn : Str → Str) (docs : Bool) (c : Capture) (iv : Nat × VariantD) : Variant TyExpr :=
  { name := iv.2.ident,
    fields := membersExpected tn docs c (shapeFields iv.2.shape),
    index := variantIndex iv.2 iv.1,
    docs := capturedDocs docs c iv.2.docs }

theorem membersExpected_eq (tn : Str → Str) (docs : Bool) (c : Capture) (fs : List FieldD) :
    membersExpected tn docs c fs =
      (fs.filter fun f => !f.skip && !Impls.isPhantom (memberTy f)).map (fieldExp tn docs c) := rfl

theorem variantsExpected_eq (tn : Str → Str) (docs : Bool) (c : Capture) (vs : List VariantD) :
    variantsExpected tn docs c vs = (enumFrom 0 (vs.filter (fun v => !v.skip))).map (variantExp tn docs c) := rfl

theorem mem_membersExpected {tn : Str → Str} {docs : Bool} {c : Capture} {fs : List FieldD} {m : Field TyExpr} :
    m ∈ membersExpected tn docs c fs ↔
      ∃ f ∈ fs, f.skip = false ∧ Impls.isPhantom (memberTy f) = false ∧ m = fieldExp tn docs c f := by
  simp only [membersExpected_eq, List.mem_map, List.mem_filter, Bool.and_eq_true, Bool.not_eq_true', and_assoc]
  exact exists_congr fun f => and_congr_right fun _ => and_congr_right fun _ => and_congr_right fun _ => eq_comm

theorem membersExpected_drop (tn : Str → Str) (docs : Bool) (c : Capture) (f : FieldD) (fs : List FieldD)
    (h : f.skip = true ∨ Impls.isPhantom (memberTy f) = true) :
    membersExpected tn docs c (f :: fs) = membersExpected tn docs c fs := by
  rw [membersExpected_eq, List.filter_cons_of_neg (by rcases h with h | h <;> simp [h])]; rfl

theorem membersExpected_keep (tn : Str → Str) (docs : Bool) (c : Capture) (f : FieldD) (fs : List FieldD)
    (hs : f.skip = false) (hp : Impls.isPhantom (memberTy f) = false) :
    membersExpected tn docs c (f :: fs) = fieldExp tn docs c f :: membersExpected tn docs c fs := by
  rw [membersExpected_eq, List.filter_cons_of_pos (by simp [hs, hp])]; rfl

theorem memberTy_plain {f : FieldD} (h : f.compact = false) : memberTy f = f.ty := by
  simp only [memberTy, h, Bool.false_eq_true, ↓reduceIte]
theorem memberTy_compact {f : FieldD} (h : f.compact = true) : memberTy f = .compact f.ty := by
  simp only [memberTy, h, ↓reduceIte]

theorem field_expected (docs : Bool) (c : Capture) (f : FieldD) :
    fieldExpected { docs := docs } (fieldCalls c f) = some (fieldExp cleanTypeString docs c f) := by
  obtain ⟨ident, ty, tyText, skip, compact, encodedAs, rename, ds⟩ := f
  have htn : ∀ a ∈ docsCall c ds, fTypeNameArg (FCall.free (R := TyExpr) a) = none := fun a ha => by
    cases a with
    | typeName s => exact absurd rfl (docsCall_typeName c ds _ ha s)
    | _ => rfl
  unfold fieldExpected fieldCalls
  rw [lastSome_tail fTyArg _ _ _ fun _ _ => rfl, lastSome_tail fNameArg _ _ _ fun _ _ => rfl, lastSome_tail fTypeNameArg _ _ _ htn]
  -- what is left is the explicit head `[ty, name?, type_name]`, and the docs
  cases rename <;> cases ident <;> rw [docs_tail docs _ FCall.free (fun _ => rfl) _ rfl] <;> rfl

theorem fields_expected (docs : Bool) (c : Capture) (fs : List FieldD) :
    fieldsExpected { docs := docs } Impls.isPhantom (fieldsCalls c fs) =
      some (membersExpected cleanTypeString docs c fs) := by
  unfold fieldsExpected fieldsCalls
  rw [List.mapM_map, mapM_eq_some_map (fieldExpected { docs := docs } ∘ fieldCalls c) _ _ (fun f _ => field_expected docs c f)]
  -- skipped members were filtered before the calls, markers after; `membersExpected` filters once
  simp only [membersExpected_eq, List.filter_map, List.filter_filter]
  rw [List.filter_congr fun f _ => Bool.and_comm _ _]
  rfl

theorem variant_expected (docs : Bool) (c : Capture) (v : VariantD) (i : Nat) :
    variantExpected { docs := docs } Impls.isPhantom (variantCalls c v i).1 (variantCalls c v i).2 =
      some (variantExp cleanTypeString docs c (i, v)) := by
  obtain ⟨ident, shape, skip, ci, di, ds⟩ := v
  unfold variantExpected variantCalls
  rw [lastSome_tail vIndexArg _ _ _ fun _ _ => rfl, lastSome_tail vFieldsArg _ _ _ fun _ _ => rfl]
  -- the explicit head is `[index]` or `[index, fields]`
  cases shape <;> rw [docs_tail docs _ VCall.free (fun _ => rfl) _ rfl]
  · rfl
  all_goals
    simp only [List.cons_append, List.nil_append, lastSome_cons, lastSome_nil, vIndexArg, vFieldsArg, Option.or, fields_expected]
    rfl

theorem variants_expected (docs : Bool) (c : Capture) (vs : List VariantD) :
    (variantsCalls c vs).mapM (fun nc => variantExpected { docs := docs } Impls.isPhantom nc.1 nc.2) =
      some (variantsExpected cleanTypeString docs c vs) := by
  unfold variantsCalls
  rw [List.mapM_map]
  exact mapM_eq_some_map _ _ _ fun iv _ => variant_expected docs c iv.2 iv.1

end Derive
end SIM
