/-
  C14 — the decoder is strict: whatever it accepts is the canonical encoding of a registry the Rust types
  can hold, followed by the untouched remainder; out-of-range ids do not resolve; non-canonical compact
  integers, bad `Option` bytes and unknown tags are rejected.
-/
import SIM.Lemmas.Codec
namespace SIM
namespace C14
open Codec

theorem decode_canonical (bs : Bytes) (r : PortableRegistry) (rest : Bytes)
    (h : decode bs = some (r, rest)) : bs = encode r ++ rest :=
  (good_registry.canon bs r rest h).2

theorem decode_bounded (bs : Bytes) (r : PortableRegistry) (rest : Bytes)
    (h : decode bs = some (r, rest)) : Bounded r :=
  (good_registry.canon bs r rest h).1

theorem decode_consumes_prefix (bs : Bytes) (r : PortableRegistry) (rest : Bytes)
    (h : decode bs = some (r, rest)) : ∃ pre, bs = pre ++ rest ∧ pre = encode r :=
  ⟨encode r, decode_canonical bs r rest h, rfl⟩

theorem resolve_oob (r : PortableRegistry) (i : Nat) (h : r.length ≤ i) : resolve r i = none := by
  simp [resolve, h]

theorem noncanonical_compact_rejected :
    decCompact [1, 0] = none ∧ decCompact [2, 0, 0, 0] = none ∧ decCompact [3, 0, 0, 0, 0] = none ∧
      decCompact [7, 1, 1, 1, 1, 1] = none := by
  decide

theorem bad_option_byte_rejected (d : Dec Nat) (b : UInt8) (rest : Bytes) (h : 2 ≤ b.toNat) :
    decOpt d (b :: rest) = none := by
  have h0 : b.toNat ≠ 0 := by omega
  have h1 : b.toNat ≠ 1 := by omega
  simp [decOpt, h0, h1]

theorem bad_def_tag_rejected (b : UInt8) (rest : Bytes) (h : 8 ≤ b.toNat) : decTypeDef (b :: rest) = none := by
  simp only [decTypeDef]
  split
  -- the arms of the tags 0 … 7 come with `b.toNat = 0`, …, `b.toNat = 7`, against `h`; the default arm is `none`
  iterate 8 omega
  rfl

theorem bad_prim_tag_rejected (b : UInt8) (rest : Bytes) (h : 15 ≤ b.toNat) : decPrim (b :: rest) = none := by
  simp [decPrim, decU8, decLe, primOfTag_none _ h]

end C14
end SIM
