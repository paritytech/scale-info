/-
  C20 (tie to the source by translation): the accepted `capture_docs` values and the attribute keywords of the derive are
  re-extracted from /repo/derive/src/attr.rs on every run; statements and proofs in SIM.Props.C16impls.
-/
import SIM.Props.C16impls
namespace SIM
namespace C20

theorem extracted_capture_ok :
    Extracted.ImplTable.captureDocs = Expected.ImplTable.captureDocs ∧ Extracted.ImplTable.captureLowercased = Expected.ImplTable.captureLowercased ∧
    Extracted.ImplTable.keywords = Expected.ImplTable.keywords :=
  ⟨C16.extracted_impls_ok.2.2.2.2.1, C16.extracted_impls_ok.2.2.2.2.2.1, C16.extracted_impls_ok.2.2.2.2.2.2⟩

theorem capture_values (v : Str) :
    Typestate.captureOk v = (Expected.ImplTable.captureDocs.map (·.1)).contains (Typestate.lower v) := (C16.capture_values v).1

/-- scale_info, bounds, skip_type_params, capture_docs, replace_segment (`crate` is a Rust keyword token); only their number is stated -/
theorem keywords_are : Expected.ImplTable.keywords.length = 5 := by decide

example : Typestate.captureOk [65, 108, 87, 97, 121, 115] = true ∧ Typestate.captureOk [97, 108, 119, 97, 121] = false := by decide

end C20
end SIM
