/-
  SIM.Lemmas.Trav — `Registry.travList`, the one loop of both graph algorithms: a state threaded through a list, the step
  allowed to fail.  `Registry.run` and `Registry.step` are instances (`run_eq`, `step_eq`; `Retain.retainLoop` too, by
  `Retain.retainLoop_eq`), so the lemmas about loops are proved here once.
-/
import SIM.Model.Registry
namespace SIM
namespace Registry
variable {σ τ R R' : Type} {f g : σ → R → Option (σ × R')}

theorem travList_cons (f : σ → R → Option (σ × R')) (s : σ) (r : R) (rs : List R) :
    travList f s (r :: rs) =
      (f s r).bind fun p => (travList f p.1 rs).map fun q => (q.1, p.2 :: q.2) := by
  simp only [travList]
  rcases f s r with _ | ⟨s1, r'⟩
  · rfl
  · simp only [Option.bind_some]
    rcases travList f s1 rs with _ | ⟨s2, rs'⟩ <;> rfl

theorem travList_nil_eq_some {s s' : σ} {out : List R'} :
    travList f s [] = some (s', out) ↔ s' = s ∧ out = [] := by
  simp [travList, eq_comm]

theorem travList_cons_eq_some {s s' : σ} {r : R} {rs : List R} {out : List R'} :
    travList f s (r :: rs) = some (s', out) ↔
      ∃ s1 r' rs', f s r = some (s1, r') ∧ travList f s1 rs = some (s', rs') ∧ out = r' :: rs' := by
  simp only [travList_cons, Option.bind_eq_some_iff, Option.map_eq_some_iff, Prod.exists, Prod.mk.injEq]
  constructor
  · rintro ⟨s1, r', h1, s2, rs', h2, rfl, rfl⟩; exact ⟨s1, r', rs', h1, h2, rfl⟩
  · rintro ⟨s1, r', rs', h1, h2, rfl⟩; exact ⟨s1, r', h1, s', rs', h2, rfl, rfl⟩

theorem travList_append (f : σ → R → Option (σ × R')) (s : σ) (a b : List R) :
    travList f s (a ++ b) =
      (travList f s a).bind fun p => (travList f p.1 b).map fun q => (q.1, p.2 ++ q.2) := by
  induction a generalizing s with
  | nil => simp [travList]
  | cons x a ih =>
    simp only [List.cons_append, travList_cons, ih]
    rcases f s x with _ | ⟨s1, r'⟩
    · rfl
    · simp only [Option.bind_some]
      rcases travList f s1 a with _ | ⟨s2, ra⟩
      · rfl
      · simp only [Option.bind_some, Option.map_some]
        rcases travList f s2 b with _ | ⟨s3, rb⟩ <;> rfl

theorem travList_append_eq_some {s s' : σ} {a b : List R} {out : List R'} :
    travList f s (a ++ b) = some (s', out) ↔
      ∃ s1 ra rb, travList f s a = some (s1, ra) ∧ travList f s1 b = some (s', rb) ∧ out = ra ++ rb := by
  simp only [travList_append, Option.bind_eq_some_iff, Option.map_eq_some_iff, Prod.exists, Prod.mk.injEq]
  constructor
  · rintro ⟨s1, ra, h1, s2, rb, h2, rfl, rfl⟩; exact ⟨s1, ra, rb, h1, h2, rfl⟩
  · rintro ⟨s1, ra, rb, h1, h2, rfl⟩; exact ⟨s1, ra, h1, s', rb, h2, rfl, rfl⟩

theorem travList_mono (h : ∀ s r res, f s r = some res → g s r = some res) {rs : List R} {s : σ}
    {res : σ × List R'} (hh : travList f s rs = some res) : travList g s rs = some res := by
  induction rs generalizing s res with
  | nil => exact hh
  | cons r rs ih =>
    obtain ⟨s', out⟩ := res
    obtain ⟨s1, r', rs', h1, h2, rfl⟩ := travList_cons_eq_some.1 hh
    exact travList_cons_eq_some.2 ⟨s1, r', rs', h _ _ _ h1, ih h2, rfl⟩

theorem travList_total {P : σ → Prop} {Q : R → Prop}
    (hf : ∀ s r, P s → Q r → ∃ s' r', f s r = some (s', r') ∧ P s') {rs : List R} {s : σ} (hP : P s)
    (hQ : ∀ r ∈ rs, Q r) : ∃ s' rs', travList f s rs = some (s', rs') ∧ P s' := by
  induction rs generalizing s with
  | nil => exact ⟨s, [], rfl, hP⟩
  | cons r rs ih =>
    obtain ⟨s1, r', h1, hP1⟩ := hf s r hP (hQ r (List.mem_cons_self ..))
    obtain ⟨s2, rs', h2, hP2⟩ := ih hP1 fun x hx => hQ x (List.mem_cons_of_mem _ hx)
    exact ⟨s2, r' :: rs', travList_cons_eq_some.2 ⟨s1, r', rs', h1, h2, rfl⟩, hP2⟩

theorem travList_rel {A A' B : Type} {Rel : σ → τ → Prop} {P : A → Prop} {φ : A → A'}
    {f : σ → A → Option (σ × B)} {g : τ → A' → Option (τ × B)}
    (h : ∀ s t a s' b, Rel s t → P a → f s a = some (s', b) → ∃ t', g t (φ a) = some (t', b) ∧ Rel s' t')
    {l : List A} {s s' : σ} {t : τ} {bs : List B} (hR : Rel s t) (hP : ∀ a ∈ l, P a)
    (e : travList f s l = some (s', bs)) : ∃ t', travList g t (l.map φ) = some (t', bs) ∧ Rel s' t' := by
  induction l generalizing s t bs with
  | nil =>
    obtain ⟨rfl, rfl⟩ := travList_nil_eq_some.1 e
    exact ⟨t, rfl, hR⟩
  | cons a l ih =>
    obtain ⟨s1, b, bs', h1, h2, rfl⟩ := travList_cons_eq_some.1 e
    obtain ⟨t1, hg, hR1⟩ := h _ _ _ _ _ hR (hP a (List.mem_cons_self ..)) h1
    obtain ⟨t2, hg2, hR2⟩ := ih hR1 (fun x hx => hP x (List.mem_cons_of_mem _ hx)) h2
    exact ⟨t2, travList_cons_eq_some.2 ⟨t1, b, bs', hg, hg2, rfl⟩, hR2⟩

theorem travList_map (π : σ → τ) {f : σ → R → Option (σ × R')} {g : τ → R → Option (τ × R')}
    (h : ∀ s r, g (π s) r = (f s r).map fun x => (π x.1, x.2)) :
    ∀ (rs : List R) (s : σ), travList g (π s) rs = (travList f s rs).map fun x => (π x.1, x.2)
  | [], _ => rfl
  | r :: rs, s => by
    simp only [travList_cons, h s r]
    rcases f s r with _ | ⟨s1, r'⟩
    · rfl
    · simp only [Option.map_some, Option.bind_some, travList_map π h rs s1]
      rcases travList f s1 rs with _ | ⟨s2, rs'⟩ <;> rfl

end Registry

def opRoots : Registry.Op → List Nat
  | .reg t => [t]
  | .regs ts => ts
  | .mip fs => fieldRefs fs

def histRoots (ops : List Registry.Op) : List Nat := ops.flatMap opRoots

theorem histRoots_cons (op : Registry.Op) (ops : List Registry.Op) :
    histRoots (op :: ops) = opRoots op ++ histRoots ops := List.flatMap_cons

theorem histRoots_map_reg {α : Type} (f : α → Nat) (l : List α) :
    histRoots (l.map fun t => Registry.Op.reg (f t)) = l.map f := by
  induction l with
  | nil => rfl
  | cons a l ih => rw [List.map_cons, histRoots_cons, ih]; rfl

namespace Registry

theorem registerType_succ (env : Nat → Ty Nat) (fuel : Nat) (s : RegState) (tid : Nat) :
    registerType env (fuel + 1) s tid =
      if (s.table.internOrGet tid).1 then
        (travList (registerType env fuel)
          { table := (s.table.internOrGet tid).2.2, types := s.types, evals := s.evals ++ [tid] } (env tid).refs).map
          fun p => ({ table := p.1.table,
                      types := insertSorted (s.table.internOrGet tid).2.1 ((env tid).fill p.2) p.1.types,
                      evals := p.1.evals }, (s.table.internOrGet tid).2.1)
      else some (s, (s.table.internOrGet tid).2.1) := by
  rw [registerType]
  split
  · rcases travList _ _ _ with _ | ⟨s', rs⟩ <;> rfl
  · rfl

/-- how an operation reports the ids of its roots -/
def outOf : Op → List Nat → Out
  | .reg _, ns => .id (ns.headD 0)
  | .regs _, ns => .ids ns
  | .mip fs, ns => .fields (fillFields fs ns).1

theorem step_eq (env : Nat → Ty Nat) (fuel : Nat) (s : RegState) (op : Op) :
    step env fuel s op =
      (travList (registerType env fuel) s (opRoots op)).map fun p => (p.1, outOf op p.2) := by
  cases op with
  | reg t =>
    simp only [step, opRoots, travList_cons]
    rcases registerType env fuel s t with _ | ⟨s1, n⟩ <;> rfl
  | regs ts => rfl
  | mip fs =>
    simp only [step, mapIntoPortableFields, opRoots]
    rcases travList _ _ _ with _ | ⟨s1, ns⟩ <;> rfl

theorem run_eq (env : Nat → Ty Nat) (fuel : Nat) : ∀ (ops : List Op) (s : RegState),
    run env fuel s ops = travList (step env fuel) s ops
  | [], _ => rfl
  | op :: ops, s => by
    rw [travList_cons, run]
    rcases step env fuel s op with _ | ⟨s1, o⟩
    · rfl
    · simp only [run_eq env fuel ops s1, Option.bind_some]
      rcases travList (step env fuel) s1 ops with _ | ⟨s2, os⟩ <;> rfl

theorem step_eq_some {env : Nat → Ty Nat} {fuel : Nat} {s s' : RegState} {op : Op} {o : Out} :
    step env fuel s op = some (s', o) ↔
      ∃ ns, travList (registerType env fuel) s (opRoots op) = some (s', ns) ∧ o = outOf op ns := by
  simp only [step_eq, Option.map_eq_some_iff, Prod.exists, Prod.mk.injEq]
  constructor
  · rintro ⟨s1, ns, h, rfl, rfl⟩; exact ⟨ns, h, rfl⟩
  · rintro ⟨ns, h, rfl⟩; exact ⟨s', ns, h, rfl, rfl⟩

theorem run_cons_eq_some {env : Nat → Ty Nat} {fuel : Nat} {s s' : RegState} {op : Op} {ops : List Op}
    {outs : List Out} : run env fuel s (op :: ops) = some (s', outs) ↔
      ∃ s1 o os, step env fuel s op = some (s1, o) ∧ run env fuel s1 ops = some (s', os) ∧ outs = o :: os := by
  simp only [run_eq]; exact travList_cons_eq_some

end Registry
end SIM
