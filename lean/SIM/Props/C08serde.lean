/-
  C08 / C19 (tie to the source by translation): the serde attributes that determine the JSON form — renames, `rename_all`,
  `transparent`, `skip_serializing_if`, `default` — re-extracted from /repo/src on every run (SIM.Extracted.Serde) are the
  table the JSON model is written from (SIM.Expected), and the model's writer emits keys of that table only: all of them for
  the structs without optional members, a sub-list for the others (which members it omits, and when, is not tied to the
  table's `skip_serializing_if` column).
-/
import SIM.Extracted.Serde
import SIM.Model.SerdeExpected
import SIM.Lemmas.Json
namespace SIM
namespace C08
open JsonM

theorem extracted_serde_ok :
    Extracted.serdeStructs = Expected.serdeStructs ∧ Extracted.serdeEnums = Expected.serdeEnums := ⟨rfl, rfl⟩

/-- otherwise the JSON form would not round trip -/
theorem skip_implies_default :
    ∀ s ∈ Expected.serdeStructs, ∀ m ∈ s.2.2, m.2.1 ≠ [] → m.2.2 = true := by decide

/-- both enums: `rename_all = "lowercase"` -/
theorem enums_lowercase : Expected.serdeEnums.map (·.2) = [[108, 111, 119, 101, 114, 99, 97, 115, 101], [108, 111, 119, 101, 114, 99, 97, 115, 101]] := by decide

def structKeys (name : Str) : List Str :=
  match Expected.serdeStructs.find? (fun s => s.1 == name) with
  | some s => s.2.2.map (·.1)
  | none => []

theorem keys_in_table {kv : List (Key × Json)} {ks : List Key} {name : Str} (h : (Spec.keysOf kv).Sublist ks)
    (ht : ks.map Key.text = structKeys name) : ∀ k ∈ Spec.keysOf kv, k.text ∈ structKeys name :=
  fun _ hk => ht ▸ List.mem_map_of_mem (h.subset hk)

/-- the struct names in bytes, here and below: `Field`, `Variant`, `Type`, `TypeParameter`, `PortableType`, `PortableRegistry` -/
theorem field_keys (f : Field Nat) : ∃ kv, ofField f = .obj kv ∧ ∀ k ∈ Spec.keysOf kv, k.text ∈ structKeys [70, 105, 101, 108, 100] :=
  let ⟨kv, he, hs, _⟩ := JsonM.field_keys f
  ⟨kv, he, keys_in_table hs (by decide)⟩

theorem variant_keys (v : Variant Nat) : ∃ kv, ofVariant v = .obj kv ∧ ∀ k ∈ Spec.keysOf kv, k.text ∈ structKeys [86, 97, 114, 105, 97, 110, 116] :=
  let ⟨kv, he, hs, _⟩ := JsonM.variant_keys v
  ⟨kv, he, keys_in_table hs (by decide)⟩

theorem ty_keys (t : Ty Nat) : ∃ kv, ofTy t = .obj kv ∧ ∀ k ∈ Spec.keysOf kv, k.text ∈ structKeys [84, 121, 112, 101] :=
  let ⟨kv, he, hs, _⟩ := JsonM.ty_keys t
  ⟨kv, he, keys_in_table hs (by decide)⟩

theorem param_keys (p : TypeParam Nat) : ∃ kv, ofParam p = .obj kv ∧ (Spec.keysOf kv).map Key.text = structKeys [84, 121, 112, 101, 80, 97, 114, 97, 109, 101, 116, 101, 114] :=
  ⟨_, rfl, (by decide : [Key.name, Key.type_].map Key.text = _)⟩

theorem ptype_keys (p : PType) : ∃ kv, ofPType p = .obj kv ∧ (Spec.keysOf kv).map Key.text = structKeys [80, 111, 114, 116, 97, 98, 108, 101, 84, 121, 112, 101] :=
  ⟨_, rfl, (by decide : [Key.id, Key.type_].map Key.text = _)⟩

theorem registry_keys (r : PortableRegistry) : ∃ kv, ofRegistry r = .obj kv ∧ (Spec.keysOf kv).map Key.text = structKeys [80, 111, 114, 116, 97, 98, 108, 101, 82, 101, 103, 105, 115, 116, 114, 121] :=
  ⟨_, rfl, (by decide : [Key.types].map Key.text = _)⟩

end C08
end SIM
