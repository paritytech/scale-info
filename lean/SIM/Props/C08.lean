/-
  C08 — the JSON form of a portable registry: for every registry the SCALE form can carry (`Codec.Bounded`; the reader
  needs only its numeric part: ids, array lengths and variant indices in the range of their Rust types) reading back
  the serialised value gives the registry; the serialised value of ANY registry has the documented shape (`Spec.jsonShape`).
-/
import SIM.Lemmas.Json
import SIM.Props.C07
namespace SIM
namespace C08
open JsonM

theorem toRegistry_ofRegistry (r : PortableRegistry) (h : Codec.Bounded r) : toRegistry (ofRegistry r) = .ok r :=
  JsonM.toRegistry_ofRegistry r h

theorem ofRegistry_shape (r : PortableRegistry) : Spec.jsonShape (ofRegistry r) = true := by
  have ha : Spec.allowed [(Key.types, Json.arr (r.map ofPType))] [.types] = true := rfl
  simp only [ofRegistry, Spec.jsonShape, ha, Bool.true_and]
  exact reqKey_some _ rfl (arrOf_map Spec.ptypeShape ofPType r (fun p _ => ptypeShape_ofPType p))

theorem json_scale_same_info (r : PortableRegistry) (h : Codec.Bounded r) :
    toRegistry (ofRegistry r) = .ok r ∧ Codec.decode (Codec.encode r) = some (r, []) :=
  ⟨toRegistry_ofRegistry r h, C07.decode_encode_exact r h⟩

theorem ofRegistry_injective (a b : PortableRegistry) (ha : Codec.Bounded a) (hb : Codec.Bounded b)
    (h : ofRegistry a = ofRegistry b) : a = b := by
  have h1 := toRegistry_ofRegistry a ha
  rw [h, toRegistry_ofRegistry b hb] at h1
  exact (Except.ok.inj h1).symm

theorem prim_name_roundtrip (p : Prim) : primOfName (primName p) = some p :=
  primOfName_primName p

/-- definitions are externally tagged (serde), with the documented lower-case tags -/
theorem def_tag (d : TypeDef Nat) : ∃ k v, ofTypeDef d = .obj [(k, v)] ∧
    k.text = (match d with
      | .composite _ => [99,111,109,112,111,115,105,116,101]       -- "composite"
      | .variant _ => [118,97,114,105,97,110,116]                  -- "variant"
      | .sequence _ => [115,101,113,117,101,110,99,101]            -- "sequence"
      | .array _ _ => [97,114,114,97,121]                          -- "array"
      | .tuple _ => [116,117,112,108,101]                          -- "tuple"
      | .primitive _ => [112,114,105,109,105,116,105,118,101]      -- "primitive"
      | .compact _ => [99,111,109,112,97,99,116]                   -- "compact"
      | .bitSequence _ _ => [98,105,116,115,101,113,117,101,110,99,101]) := by  -- "bitsequence"
  cases d <;> exact ⟨_, _, rfl, rfl⟩

theorem key_text_roundtrip (k : Key) (h : ∀ s, k ≠ .other s) : Key.ofText k.text = k := by
  cases k with
  | other s => exact absurd rfl (h s)
  -- 23 keys, each compared with up to 23 texts: the elaborator's `rfl` costs three times as much
  | _ => decide +kernel

/-- empty parts are omitted -/
theorem ty_members (t : Ty Nat) : ∃ kv, ofTy t = .obj kv ∧
    ((getKey kv .path).isSome = !t.path.isEmpty) ∧ ((getKey kv .params).isSome = !t.params.isEmpty) ∧
    ((getKey kv .docs).isSome = !t.docs.isEmpty) ∧ (getKey kv .def_).isSome = true := by
  obtain ⟨kv, he, -, h1, h2, h3, h4⟩ := JsonM.ty_keys t
  exact ⟨kv, he, by rw [h1, isSome_ite], by rw [h2, isSome_ite], by rw [h4, isSome_ite], by rw [h3]; rfl⟩

/-- absent names are omitted -/
theorem field_members (f : Field Nat) : ∃ kv, ofField f = .obj kv ∧
    ((getKey kv .name).isSome = f.name.isSome) ∧ ((getKey kv .typeName).isSome = f.typeName.isSome) ∧
    ((getKey kv .docs).isSome = !f.docs.isEmpty) ∧ (getKey kv .type_).isSome = true := by
  obtain ⟨kv, he, -, h1, h2, h3, h4⟩ := JsonM.field_keys f
  exact ⟨kv, he, by rw [h1, isSome_ite], by rw [h3, isSome_ite], by rw [h4, isSome_ite], by rw [h2]; rfl⟩

example : toRegistry (ofRegistry C07.sample) = .ok C07.sample := toRegistry_ofRegistry C07.sample C07.sample_bounded

example : Spec.jsonShape (ofRegistry C07.sample) = true := ofRegistry_shape C07.sample

end C08
end SIM
