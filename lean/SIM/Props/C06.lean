/-
  C06 — the wire layout is the V14 layout: primitive tags 0..14 in declaration order, definition tags 0..7,
  array = u32 length then id, bit sequence = store then order, the four compact size classes, and the
  encoding is prefix free (self-delimiting) on the registries the format can carry (`Bounded`, see C07).
-/
import SIM.Lemmas.Codec
namespace SIM
namespace C06
open Codec

theorem prim_tag_roundtrip (p : Prim) : primOfTag (primTag p) = some p :=
  (primOfTag_eq_some _ p).2 rfl

theorem prim_tag_unique (n : Nat) (p : Prim) (h : primOfTag n = some p) : primTag p = n :=
  (primOfTag_eq_some n p).1 h

theorem prim_tag_range (p : Prim) : primTag p < 15 :=
  primTag_lt p

theorem prim_tags :
    [Prim.bool, .char, .str, .u8, .u16, .u32, .u64, .u128, .u256, .i8, .i16, .i32, .i64, .i128, .i256].map primTag
      = List.range 15 := by
  decide

def defTag : TypeDef Nat → Nat
  | .composite _ => 0 | .variant _ => 1 | .sequence _ => 2 | .array _ _ => 3
  | .tuple _ => 4 | .primitive _ => 5 | .compact _ => 6 | .bitSequence _ _ => 7

theorem def_tag_first_byte (d : TypeDef Nat) : (encTypeDef d).head? = some (UInt8.ofNat (defTag d)) := by
  cases d <;> rfl

theorem array_layout (n t : Nat) : encTypeDef (.array n t) = 3 :: (le 4 n ++ encCompact t) := rfl

theorem bitseq_layout (s o : Nat) : encTypeDef (.bitSequence s o) = 7 :: (encCompact s ++ encCompact o) := rfl

theorem compact_classes (n : Nat) :
    (n < 64 → (encCompact n).length = 1) ∧ (64 ≤ n → n < 16384 → (encCompact n).length = 2) ∧
    (16384 ≤ n → n < 1073741824 → (encCompact n).length = 4) ∧ (1073741824 ≤ n → (encCompact n).length = 5) := by
  rw [encCompact_length]
  refine ⟨fun h => if_pos h, fun h h' => ?_, fun h h' => ?_, fun h => ?_⟩
  · rw [if_neg (by omega), if_pos h']
  · rw [if_neg (by omega), if_neg (by omega), if_pos h']
  · rw [if_neg (by omega), if_neg (by omega), if_neg (by omega)]

theorem encode_prefix_free (a b : PortableRegistry) (x y : Bytes) (ha : Bounded a) (hb : Bounded b)
    (h : encode a ++ x = encode b ++ y) : a = b ∧ x = y :=
  good_registry.prefix_free a b x y ha hb h

end C06
end SIM
