/-
  C16 — MetaType: equality, ordering and hashing go through the declared identity only, and any two
  types declaring the same identity return the same definition, so it never matters which alias a
  registry meets first. No built-in impl lists a PhantomData member.
-/
import SIM.Lemmas.Impls
namespace SIM
namespace C16
open Impls

theorem eq_iff_identity (docs : Bool) (a b : TyExpr) :
    metaEq (metaOf docs a) (metaOf docs b) = true ↔ identity a = identity b := by
  simp [metaEq, metaOf]

theorem identity_idem (t : TyExpr) : identity (identity t) = identity t :=
  (identity_of_aliasEq (aliasEq_identity t)).symm

theorem typeInfo_identity (docs : Bool) (t : TyExpr) : typeInfo docs (identity t) = typeInfo docs t :=
  (typeInfo_of_aliasEq docs (aliasEq_identity t)).symm

theorem identity_coherent (docs : Bool) (a b : TyExpr) (h : identity a = identity b) :
    typeInfo docs a = typeInfo docs b := by
  rw [← typeInfo_identity docs a, ← typeInfo_identity docs b, h]

/-- equal as (identity, definition) pairs -/
theorem meta_eq_full (docs : Bool) (a b : TyExpr) (h : metaEq (metaOf docs a) (metaOf docs b) = true) :
    metaOf docs a = metaOf docs b := by
  have hid := (eq_iff_identity docs a b).1 h
  simp only [metaOf, hid, identity_coherent docs a b hid]

/-- `key`: any order / hash computed from the identity -/
theorem ord_hash_consistent {β} (key : TyExpr → β) (docs : Bool) (a b : TyExpr)
    (h : metaEq (metaOf docs a) (metaOf docs b) = true) : key (metaOf docs a).id = key (metaOf docs b).id := by
  rw [meta_eq_full docs a b h]

/-- type parameters may still name a `PhantomData` -/
theorem impls_never_list_phantom (docs : Bool) (t : TyExpr) (ty : Ty TyExpr) (h : typeInfo docs t = some ty) :
    match ty.def_ with
    | .composite fs => ∀ f ∈ fs, isPhantom f.ty = false
    | .variant vs => ∀ v ∈ vs, ∀ f ∈ v.fields, isPhantom f.ty = false
    | .tuple ts => ∀ r ∈ ts, isPhantom r = false
    | _ => True := by
  induction t generalizing ty with
  | box_ t ih | rc t ih | arc t ih | ref_ t ih | refMut t ih => exact ih ty h
  | adt n args => cases h
  | tupleCons a r =>
    cases h
    exact fun r hr => by simpa using (List.mem_filter.1 hr).2
  | option t =>
    cases h
    intro v hv f hf
    simp only [List.mem_cons, List.not_mem_nil, or_false] at hv
    rcases hv with rfl | rfl
    · cases hf
    · exact pushed_not_phantom _ f hf
  | result t e =>
    cases h
    intro v hv f hf
    simp only [List.mem_cons, List.not_mem_nil, or_false] at hv
    rcases hv with rfl | rfl <;> exact pushed_not_phantom _ f hf
  | cow _ | btreeMap _ _ | btreeSet _ | binaryHeap _ | range _ | rangeIncl _ | nonZeroU _ | nonZeroI _ | duration =>
    cases h
    exact pushed_not_phantom _
  | tuple0 | phantom _ | lsb0 | msb0 =>
    cases h
    exact fun _ hf => nomatch hf
  | _ =>
    cases h
    exact trivial

end C16
end SIM
