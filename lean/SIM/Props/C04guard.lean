/-
  C04 (guard) — `Driver.preflight`, which protects the compiled driver from garbage lengths, never rejects an input
  `decodeVal` accepts given budget `Driver.steps v` (one unit per node of the decoded value plus one per element of a
  sequence / array), and `Driver.decodeGuarded` never answers anything `decodeVal` does not.
-/
import SIM.Lemmas.Guard
namespace SIM
namespace C04
open Driver Value Codec

theorem preflight_cost (reg : PortableRegistry) (fuel id : Nat) (bs : Bytes) (v : Val) (rest : Bytes)
    (h : decodeVal reg fuel id bs = some (v, rest)) (b : Nat) (hb : steps v ≤ b) :
    preflight reg fuel id bs b = some (rest, b - steps v) := by
  have := preflight_follows reg fuel id bs v rest h (b - steps v)
  rwa [Nat.add_sub_cancel' hb] at this

theorem preflight_budget_mono (reg : PortableRegistry) (fuel id : Nat) (bs : Bytes) (v : Val) (rest : Bytes)
    (h : decodeVal reg fuel id bs = some (v, rest)) (b k : Nat) (hb : steps v ≤ b) :
    preflight reg fuel id bs (b + k) = some (rest, b - steps v + k) := by
  have := preflight_follows reg fuel id bs v rest h (b - steps v + k)
  rwa [← Nat.add_assoc, Nat.add_sub_cancel' hb] at this

theorem preflight_complete (reg : PortableRegistry) (fuel id : Nat) (bs : Bytes) (v : Val) (rest : Bytes)
    (h : decodeVal reg fuel id bs = some (v, rest)) :
    ∃ b0, ∀ b, b0 ≤ b → ∃ b', preflight reg fuel id bs b = some (rest, b') :=
  ⟨steps v, fun b hb => ⟨b - steps v, preflight_cost reg fuel id bs v rest h b hb⟩⟩

theorem decodeGuarded_of_budget {reg : PortableRegistry} {fuel id : Nat} {bs : Bytes} {v : Val} {rest : Bytes}
    (h : decodeVal reg fuel id bs = some (v, rest)) {b : Nat} (hb : steps v ≤ b) :
    decodeGuarded reg fuel id bs b = some (v, rest) := by
  simp only [decodeGuarded, preflight_cost reg fuel id bs v rest h b hb, h]

theorem decodeGuarded_complete (reg : PortableRegistry) (fuel id : Nat) (bs : Bytes) (v : Val) (rest : Bytes)
    (h : decodeVal reg fuel id bs = some (v, rest)) :
    ∃ b0, ∀ b, b0 ≤ b → decodeGuarded reg fuel id bs b = some (v, rest) :=
  ⟨steps v, fun _ hb => decodeGuarded_of_budget h hb⟩

theorem decodeGuarded_sound (reg : PortableRegistry) (fuel id : Nat) (bs : Bytes) (b : Nat) (r : Val × Bytes)
    (h : decodeGuarded reg fuel id bs b = some r) : decodeVal reg fuel id bs = some r := by
  simp only [decodeGuarded] at h
  split at h
  · cases h
  · exact h

private def ty (d : TypeDef Nat) : Ty Nat := { path := [], params := [], def_ := d, docs := [] }
private def fld (t : Nat) : Field Nat := { name := none, ty := t, typeName := none, docs := [] }

/-- 0: `struct S(u8, Vec<u16>)`, 1: `u8`, 2: `u16`, 3: `Vec<u16>`, 4: `()`, 5: `Vec<()>` -/
def exReg : PortableRegistry :=
  [ { id := 0, ty := ty (.composite [fld 1, fld 3]) },
    { id := 1, ty := ty (.primitive .u8) },
    { id := 2, ty := ty (.primitive .u16) },
    { id := 3, ty := ty (.sequence 2) },
    { id := 4, ty := ty (.tuple []) },
    { id := 5, ty := ty (.sequence 4) } ]

/-- `S(7, vec![1, 513])` followed by one byte that is not part of it -/
def exBytes : Bytes := [7, 8, 1, 0, 1, 2, 255]

def exVal : Val := .composite [(none, .uint 8 7), (none, .seq [.uint 16 1, .uint 16 513])]

example : decodeVal exReg 3 0 exBytes = some (exVal, [255]) := by rfl
example : decodeGuarded exReg 3 0 exBytes 100 = some (exVal, [255]) := by rfl
example : steps exVal = 7 := by rfl
example : preflight exReg 3 0 exBytes 100 = some ([255], 93) := by rfl
/-- the bound `steps v` is sharp -/
example : decodeGuarded exReg 3 0 exBytes 7 = some (exVal, [255]) := by rfl
example : preflight exReg 3 0 exBytes 6 = none := by rfl
/-- the garbage length the guard exists for: 2^30 - 1 zero-sized elements announced -/
example : decCompact [254, 255, 255, 255] = some (1073741823, []) := by rfl
example : decodeGuarded exReg 3 5 [254, 255, 255, 255] 100 = none := by rfl

end C04
end SIM
