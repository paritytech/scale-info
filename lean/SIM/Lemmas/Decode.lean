/-
  SIM.Lemmas.Decode — what a successful run of `Value.decodeVal` and of the list decoders it is built from looks like: one
  equation or inversion lemma per definition.
-/
import SIM.Model.Value
import SIM.Lemmas.Codec
namespace SIM

namespace Value
open Codec

theorem decFields_cons (f : Nat → Dec Val) (fld : Field Nat) (fs : List (Field Nat)) (bs : Bytes) :
    decFields f (fld :: fs) bs = (f fld.ty bs).bind fun p => Dec.map ((fld.name, p.1) :: ·) (decFields f fs) p.2 := by
  simp only [decFields, Dec.map]
  cases f fld.ty bs with
  | none => rfl
  | some p => simp only [Option.bind]; cases decFields f fs p.2 <;> rfl

theorem decEach_cons (f : Nat → Dec Val) (t : Nat) (ts : List Nat) (bs : Bytes) :
    decEach f (t :: ts) bs = (f t bs).bind fun p => Dec.map (p.1 :: ·) (decEach f ts) p.2 := by
  simp only [decEach, Dec.map]
  cases f t bs with
  | none => rfl
  | some p => simp only [Option.bind]; cases decEach f ts p.2 <;> rfl

theorem decBitChunks_succ (w : Nat) (msb : Bool) (fuel : Nat) {n : Nat} (hn : n ≠ 0) (bs : Bytes) :
    decBitChunks w msb (fuel + 1) n bs = (decLe (w / 8) bs).bind fun p =>
      Dec.map (bitsOfChunk w msb p.1 (min w n) ++ ·) (decBitChunks w msb fuel (n - min w n)) p.2 := by
  simp only [decBitChunks, if_neg hn, Dec.map]
  cases decLe (w / 8) bs with
  | none => rfl
  | some p => simp only [Option.bind]; cases decBitChunks w msb fuel (n - min w n) p.2 <;> rfl

/-- one node read by `decodeVal`, by shape of its definition (the reading counterpart of `Spec.HasTy`); `rec` reads
    the members -/
inductive Node (reg : PortableRegistry) (rec : Nat → Dec Val) (id : Nat) (bs : Bytes) : Val → Bytes → Prop
  | primitive {t p v rest} : resolve reg id = some t → t.def_ = .primitive p → decPrimVal p bs = some (v, rest) →
      Node reg rec id bs v rest
  | composite {t fs vs rest} : resolve reg id = some t → t.def_ = .composite fs →
      decFields rec fs bs = some (vs, rest) → Node reg rec id bs (.composite vs) rest
  | variant {t vars b bs' x vs rest} : resolve reg id = some t → t.def_ = .variant vars → bs = b :: bs' →
      vars.find? (fun y => y.index == b.toNat) = some x → decFields rec x.fields bs' = some (vs, rest) →
      Node reg rec id bs (.variant x.name x.index vs) rest
  | sequence {t e n r1 vs rest} : resolve reg id = some t → t.def_ = .sequence e → decCompact bs = some (n, r1) →
      Dec.rep (rec e) n r1 = some (vs, rest) → Node reg rec id bs (.seq vs) rest
  | array {t n e vs rest} : resolve reg id = some t → t.def_ = .array n e → Dec.rep (rec e) n bs = some (vs, rest) →
      Node reg rec id bs (.array vs) rest
  | tuple {t ts vs rest} : resolve reg id = some t → t.def_ = .tuple ts → decEach rec ts bs = some (vs, rest) →
      Node reg rec id bs (.tuple vs) rest
  | compact {t e te p bits n rest} : resolve reg id = some t → t.def_ = .compact e → resolve reg e = some te →
      te.def_ = .primitive p → primBits p = some (false, bits) → decCompactBig bs = some (n, rest) → n < 2 ^ bits →
      Node reg rec id bs (.compact bits n) rest
  | bits {t s o w msb n r1 l rest} : resolve reg id = some t → t.def_ = .bitSequence s o → storeWidth reg s = some w →
      orderMsb reg o = some msb → decCompact bs = some (n, r1) → decBitChunks w msb (n + 1) n r1 = some (l, rest) →
      Node reg rec id bs (.bits w msb l) rest

theorem decodeVal_succ_eq_some (reg : PortableRegistry) (fuel id : Nat) (bs : Bytes) (v : Val) (rest : Bytes) :
    decodeVal reg (fuel + 1) id bs = some (v, rest) ↔ Node reg (decodeVal reg fuel) id bs v rest := by
  constructor
  · -- every `match` of the decoder that did not answer `none` supplies a premise of the node
    intro h
    rw [decodeVal] at h
    cases hr : resolve reg id with
    | none => simp [hr] at h
    | some t =>
      simp only [hr] at h
      cases hd : t.def_ with
      | primitive p => exact .primitive hr hd (by simpa only [hd] using h)
      | composite fs =>
        simp only [hd, Dec.map_eq_some] at h
        obtain ⟨vs, h, rfl⟩ := h
        exact .composite hr hd h
      | variant vars =>
        simp only [hd] at h
        cases bs with
        | nil => cases h
        | cons b bs' =>
          cases hf : vars.find? (fun y => y.index == b.toNat) with
          | none => simp [hf] at h
          | some x =>
            simp only [hf, Dec.map_eq_some] at h
            obtain ⟨vs, h, rfl⟩ := h
            exact .variant hr hd rfl hf h
      | sequence e =>
        simp only [hd] at h
        cases hc : decCompact bs with
        | none => simp [hc] at h
        | some q =>
          simp only [hc, Dec.map_eq_some] at h
          obtain ⟨vs, h, rfl⟩ := h
          exact .sequence hr hd hc h
      | array n e =>
        simp only [hd, Dec.map_eq_some] at h
        obtain ⟨vs, h, rfl⟩ := h
        exact .array hr hd h
      | tuple ts =>
        simp only [hd, Dec.map_eq_some] at h
        obtain ⟨vs, h, rfl⟩ := h
        exact .tuple hr hd h
      | compact e =>
        simp only [hd] at h
        -- the element resolves to an unsigned primitive, whose width bounds what `decCompactBig` read
        split at h
        · cases h
        next te hre =>
          split at h
          next p hp =>
            split at h
            next bits hb =>
              split at h
              · cases h
              next n r hc =>
                split at h
                · cases h; exact .compact hr hd hre hp hb hc ‹_›
                · cases h
            · cases h
          · cases h
      | bitSequence s o =>
        simp only [hd] at h
        split at h
        next w msb hw hm =>
          cases hc : decCompact bs with
          | none => simp [hc] at h
          | some q =>
            simp only [hc, Dec.map_eq_some] at h
            obtain ⟨l, h, rfl⟩ := h
            exact .bits hr hd hw hm hc h
        · cases h
  · intro h
    cases h <;> simp only [decodeVal, Dec.map, *, if_true]

end Value
end SIM
