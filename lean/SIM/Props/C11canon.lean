/-
  C11 (continued) — `Registry` and `PortableRegistry::retain` produce the SAME canonical numbering: a registry produced by
  any history is already in the depth-first, first-reached numbering `retain` would give it, i.e. retaining everything
  from it changes neither the registry nor any id.
-/
import SIM.Props.C01
import SIM.Lemmas.RegistryCanon
namespace SIM
namespace C11
open Reg

theorem registry_canonical (env : Nat → Ty Nat) (fuel : Nat) (ops : List Registry.Op) (s : RegState)
    (outs : List Registry.Out) (h : Registry.run env fuel Registry.empty ops = some (s, outs)) :
    Retain.retain (Registry.toPortable s) (fun _ => true) =
      some (Registry.toPortable s,
            (List.range (Registry.toPortable s).length).map (fun i => (i, i))) := by
  obtain ⟨ids, hflat⟩ := run_flat h
  exact RegCanon.registry_canon_core hflat

theorem register_type_canonical (env : Nat → Ty Nat) (fuel : Nat) (k : Nat) (s : RegState) (id : Nat)
    (h : Registry.registerType env fuel Registry.empty k = some (s, id)) :
    Retain.retain (Registry.toPortable s) (fun _ => true) =
      some (Registry.toPortable s,
            (List.range (Registry.toPortable s).length).map (fun i => (i, i))) :=
  registry_canonical env fuel [.reg k] s [.id id] (by simp only [Registry.run, Registry.step, h, Option.map_some])

theorem registry_retain_resolve (env : Nat → Ty Nat) (fuel : Nat) (ops : List Registry.Op) (s : RegState)
    (outs : List Registry.Out) (h : Registry.run env fuel Registry.empty ops = some (s, outs))
    (r' : PortableRegistry) (m : List (Nat × Nat))
    (hr : Retain.retain (Registry.toPortable s) (fun _ => true) = some (r', m)) :
    r' = Registry.toPortable s ∧ ∀ i, i < (Registry.toPortable s).length → Retain.lookup m i = some i := by
  rw [registry_canonical env fuel ops s outs h] at hr
  obtain ⟨rfl, rfl⟩ := hr
  exact ⟨rfl, fun i hi => RegCanon.lookup_idmap hi⟩

/-- `0 = struct<T = #2> { f : #1 }`, `1 = enum { V(#2, #0) }`, `2 = [#0; 4]` -/
abbrev envC : Nat → Ty Nat := C01.env3

/-- registering `#2` first numbers `#2 ↦ 0`, `#0 ↦ 1`, `#1 ↦ 2` (not the numbering of `C01.expected3`) -/
def expectedC : PortableRegistry :=
  [ { id := 0, ty := { path := [], params := [], def_ := .array 4 1, docs := [] } },
    { id := 1,
      ty := { path := [[65]], params := [{ name := [84], ty := some 0 }],
              def_ := .composite [{ name := some [102], ty := 2, typeName := none, docs := [] }], docs := [] } },
    { id := 2,
      ty := { path := [[66]], params := [],
              def_ := .variant [{ name := [86], fields := [{ name := none, ty := 0, typeName := none, docs := [] },
                                                            { name := none, ty := 1, typeName := none, docs := [] }],
                                  index := 0, docs := [] }], docs := [] } } ]

/-- `register_type(#2)`, then `register_type(#0)` (already interned: id 1) -/
example :
    (Registry.run envC 4 Registry.empty [.reg 2, .reg 0]).map
        (fun r => (Registry.toPortable r.1, r.1.table.vec, r.2)) =
      some (expectedC, [2, 0, 1], [.id 0, .id 1]) := by
  decide +kernel

/-- the conclusion of `registry_canonical`, computed -/
example : Retain.retain expectedC (fun _ => true) =
    some (expectedC, (List.range expectedC.length).map (fun i => (i, i))) := by
  decide +kernel

/-- and obtained from the theorem -/
example : Retain.retain expectedC (fun _ => true) =
    some (expectedC, (List.range expectedC.length).map (fun i => (i, i))) := by
  obtain ⟨r, hr, he⟩ := Option.map_eq_some_iff.1 (show (Registry.run envC 4 Registry.empty [.reg 2, .reg 0]).map
    (fun r => Registry.toPortable r.1) = some expectedC by decide)
  exact he ▸ registry_canonical envC 4 [.reg 2, .reg 0] r.1 r.2 hr

/-- a `register_types` and a `map_into_portable` operation: roots `1`, then the field type `0` -/
example :
    (Registry.run envC 4 Registry.empty
        [.regs [1, 1], .mip [{ name := none, ty := 0, typeName := none, docs := [] }]]).map
      (fun r => (r.1.table.vec,
        decide (Retain.retain (Registry.toPortable r.1) (fun _ => true) =
          some (Registry.toPortable r.1, (List.range (Registry.toPortable r.1).length).map (fun i => (i, i)))))) =
      some ([1, 2, 0], true) := by
  decide +kernel

/-- `C01.expected3` with entries 1 and 2 exchanged: well formed, NOT in canonical numbering -/
def swapped : PortableRegistry :=
  [ { id := 0,
      ty := { path := [[65]], params := [{ name := [84], ty := some 2 }],
              def_ := .composite [{ name := some [102], ty := 1, typeName := none, docs := [] }], docs := [] } },
    { id := 1,
      ty := { path := [[66]], params := [],
              def_ := .variant [{ name := [86], fields := [{ name := none, ty := 2, typeName := none, docs := [] },
                                                            { name := none, ty := 0, typeName := none, docs := [] }],
                                  index := 0, docs := [] }], docs := [] } },
    { id := 2, ty := { path := [], params := [], def_ := .array 4 0, docs := [] } } ]

example : WF swapped := by
  unfold WF
  decide

example : Retain.retain swapped (fun _ => true) ≠
    some (swapped, (List.range swapped.length).map (fun i => (i, i))) := by
  decide +kernel

end C11
end SIM
