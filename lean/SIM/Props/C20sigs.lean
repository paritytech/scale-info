/-
  C20 (tie to the source by translation): the typestate model is the reading of the builder *signatures* of /repo/src/build.rs.
  Every inherent `impl<..> Builder<args> { pub fn m(self, ..) -> Ret }` is re-extracted on every run (SIM.Extracted.Typestate.sigs).
  A generic automaton runs over that table: a call `m` on a value of type `B<args>` is allowed when a row for `B` and `m` unifies
  with `args` (`?X` is a generic parameter of the impl), and yields the row's result type. For EVERY sequence of calls it reaches
  the type the closure bound / the terminal demands exactly when the counting predicates of SIM.Model.Typestate hold.
-/
import SIM.Extracted.Typestate
import SIM.Model.TypestateExpected
import SIM.Model.Typestate
import SIM.Lemmas.Sigs
import SIM.Props.C20
namespace SIM
namespace C20
open Typestate

theorem extracted_sigs_ok :
    Extracted.Typestate.sigs = Expected.Typestate.sigs ∧ Extracted.Typestate.defaults = Expected.Typestate.defaults := ⟨rfl, rfl⟩

/-- the closure bounds of `field` / `field_portable`; `FieldsBuilder<F, NoFields>` has no such method -/
theorem field_closure_bounds :
    closureOf (bFields, [fMeta, kNamed]) mField = some ((bField, [fMeta, nNo, tNo]), (bField, [fMeta, nYes, tYes])) ∧
    closureOf (bFields, [fMeta, kUnnamed]) mField = some ((bField, [fMeta, nNo, tNo]), (bField, [fMeta, nNo, tYes])) ∧
    closureOf (bFields, [fPortable, kNamed]) mFieldPortable = some ((bField, [fPortable, nNo, tNo]), (bField, [fPortable, nYes, tYes])) ∧
    closureOf (bFields, [fPortable, kUnnamed]) mFieldPortable = some ((bField, [fPortable, nNo, tNo]), (bField, [fPortable, nNo, tYes])) ∧
    closureOf (bFields, [fMeta, kNone]) mField = none ∧ closureOf (bFields, [fPortable, kNone]) mFieldPortable = none := by
  refine ⟨?_, ?_, ?_, ?_, ?_, ?_⟩ <;> decide

theorem field_sigs_iff_fieldOk (portable : Bool) (calls : List FStep) :
    (runSig Expected.Typestate.sigs (bField, [form portable, nNo, tNo]) (calls.map (fMethod portable)) = some (bField, [form portable, nYes, tYes])
      ↔ fieldOk .named calls = true) ∧
    (runSig Expected.Typestate.sigs (bField, [form portable, nNo, tNo]) (calls.map (fMethod portable)) = some (bField, [form portable, nNo, tYes])
      ↔ fieldOk .unnamed calls = true) := by
  -- through the coding: a run from (no name, no type) to the flags `(n, t)` is a run of the name flag beside one of the type flag
  have run (n t : Bool) := (runSig_eq_some (fStep_eq portable) (fEnc_inj portable) calls (false, false) (n, t)).trans
    ((foldlM_pair ..).trans (and_comm.trans (and_congr (foldlM_flag ..) (foldlM_flag ..))))
  simp only [fieldOk, Bool.and_eq_true, beq_iff_eq]
  exact ⟨(run true true).trans (by simp [List.count]), (run false true).trans (by simp [List.count])⟩

/-- `compact` has the signature of `ty`, MetaForm only -/
theorem compact_like_ty (n : Str) :
    stepSig Expected.Typestate.sigs (bField, [fMeta, n, tNo]) mCompact = stepSig Expected.Typestate.sigs (bField, [fMeta, n, tNo]) mTy ∧
    stepSig Expected.Typestate.sigs (bField, [fMeta, n, tYes]) mCompact = none ∧
    stepSig Expected.Typestate.sigs (bField, [fPortable, n, tNo]) mCompact = none :=
  ⟨rfl, rfl, rfl⟩

theorem variant_closure_bound (f : Str) (hf : f = fMeta ∨ f = fPortable) :
    stepSig Expected.Typestate.sigs (bVariant, [f, iNo]) mIndex = some (bVariant, [f, iYes]) ∧
    stepSig Expected.Typestate.sigs (bVariant, [f, iYes]) mIndex = none ∧
    stepSig Expected.Typestate.sigs (bVariant, [f, iYes]) mFinalize = some (bVariantT, [f]) ∧
    stepSig Expected.Typestate.sigs (bVariant, [f, iNo]) mFinalize = none := by
  rcases hf with rfl | rfl <;> decide +kernel

theorem variant_sigs_iff (portable : Bool) (calls : List VStep) :
    runSig Expected.Typestate.sigs (bVariant, [form portable, iNo]) (calls.map (vMethod portable)) = some (bVariant, [form portable, iYes])
      ↔ (calls.filter isIndex).length = 1 := by
  refine (runSig_eq_some (vStep_eq portable) (vEnc_inj portable) calls false true).trans ((foldlM_flag ..).trans ?_)
  simp [List.countP_eq_length_filter]

theorem type_sigs_iff (portable : Bool) (prog : List TStep) :
    runSig Expected.Typestate.sigs (bType, [form portable, pNo]) (prog.map (tMethod portable)) = some (bTy, [form portable])
      ↔ ((prog.filter isPath).length = 1 ∧ (prog.filter isTerminal).length = 1 ∧ (prog.getLast?.map isTerminal) = some true) :=
  (runSig_eq_some (tStep_eq portable) (tEnc_inj portable) prog (some false) none).trans (tRun_spec prog)

/-- not an equivalence: the model also demands well-formed inner lists -/
theorem accepts_runs (portable : Bool) (prog : List TStep) (h : accepts prog = true) :
    runSig Expected.Typestate.sigs (bType, [form portable, pNo]) (prog.map (tMethod portable)) = some (bTy, [form portable]) :=
  (type_sigs_iff portable prog).2 ⟨(accepts_iff.1 h).1, (accepts_iff.1 h).2.1, accepted_last_terminal h⟩

/-! `fieldsTypecheck`, `variantTypechecks` and `progTypechecks` are defined from the extracted table only. -/

def kindName : FKind → Str | .unit => kNone | .named => kNamed | .unnamed => kUnnamed
def fieldMethod (portable : Bool) : Str := if portable then mFieldPortable else mField

def fieldsTypecheck (portable : Bool) (fp : FieldsProg) : Prop :=
  ∀ calls ∈ fp.fields, ∃ init tgt, closureOf (bFields, [form portable, kindName fp.kind]) (fieldMethod portable) = some (init, tgt) ∧
    runSig Expected.Typestate.sigs init (calls.map (fMethod portable)) = some tgt

theorem fields_typecheck_iff (portable : Bool) (fp : FieldsProg) : fieldsTypecheck portable fp ↔ fieldsOk fp = true := by
  rw [fieldsOk_iff]
  refine forall_congr' fun calls => imp_congr_right fun _ => ?_
  -- one member: once the closure bound of `field` is known, what is left is the run against that bound
  have some_case : ∀ {o : Option (TyState × TyState)} {A B}, o = some (A, B) →
      ((∃ init tgt, o = some (init, tgt) ∧ runSig Expected.Typestate.sigs init (calls.map (fMethod portable)) = some tgt) ↔
        runSig Expected.Typestate.sigs A (calls.map (fMethod portable)) = some B) :=
    fun hc => hc ▸ ⟨fun ⟨_, _, e, h⟩ => by cases e; exact h, fun h => ⟨_, _, rfl, h⟩⟩
  -- `NoFields`: no `field` method, and no member is `fieldOk` there
  have none_case : ∀ {o : Option (TyState × TyState)}, o = none →
      ((∃ init tgt, o = some (init, tgt) ∧ runSig Expected.Typestate.sigs init (calls.map (fMethod portable)) = some tgt) ↔
        fieldOk .unit calls = true) :=
    fun hc => hc ▸ ⟨fun ⟨_, _, e, _⟩ => (nomatch e), fun h => (fieldOk_iff.1 h).2.elim⟩
  obtain ⟨h1, h2, h3, h4, h5, h6⟩ := field_closure_bounds
  obtain ⟨hn, hu⟩ := field_sigs_iff_fieldOk portable calls
  cases portable <;> cases fp.kind
  · exact none_case h5
  · exact (some_case h1).trans hn
  · exact (some_case h2).trans hu
  · exact none_case h6
  · exact (some_case h3).trans hn
  · exact (some_case h4).trans hu

def variantTypechecks (portable : Bool) (calls : List VStep) : Prop :=
  runSig Expected.Typestate.sigs (bVariant, [form portable, iNo]) (calls.map (vMethod portable)) = some (bVariant, [form portable, iYes]) ∧
  ∀ c ∈ calls, match c with | .fields fp => fieldsTypecheck portable fp | _ => True

theorem variant_typechecks_iff (portable : Bool) (calls : List VStep) : variantTypechecks portable calls ↔ variantOk calls = true := by
  unfold variantTypechecks variantOk
  rw [variant_sigs_iff, Bool.and_eq_true, beq_iff_eq, List.all_eq_true]
  refine and_congr Iff.rfl (forall_congr' fun c => imp_congr_right fun _ => ?_)
  cases c <;> simp [fields_typecheck_iff]

def progTypechecks (portable : Bool) (prog : List TStep) : Prop :=
  runSig Expected.Typestate.sigs (bType, [form portable, pNo]) (prog.map (tMethod portable)) = some (bTy, [form portable]) ∧
  (match prog.getLast? with
   | some (.composite fp) => fieldsTypecheck portable fp
   | some (.variant vs) => ∀ v ∈ vs, variantTypechecks portable v
   | _ => True)

theorem typechecks_iff_accepts (portable : Bool) (prog : List TStep) : progTypechecks portable prog ↔ accepts prog = true := by
  unfold progTypechecks accepts
  rw [type_sigs_iff]
  simp only [Bool.and_eq_true, beq_iff_eq]
  cases hl : prog.getLast? with
  | none => simp
  | some c => cases c <;> simp [isTerminal, fields_typecheck_iff, variant_typechecks_iff, and_assoc]

example : runSig Expected.Typestate.sigs (bField, [fMeta, nNo, tNo]) [mTy, mName, mTypeName, mDocs] = some (bField, [fMeta, nYes, tYes]) := by decide +kernel
example : runSig Expected.Typestate.sigs (bField, [fMeta, nNo, tNo]) [mTy, mTy] = none := by decide +kernel
example : runSig Expected.Typestate.sigs (bType, [fMeta, pNo]) [mDocs, mPath, mTypeParams, mComposite] = some (bTy, [fMeta]) := by decide +kernel
example : runSig Expected.Typestate.sigs (bType, [fMeta, pNo]) [mComposite] = none := by decide +kernel

end C20
end SIM
