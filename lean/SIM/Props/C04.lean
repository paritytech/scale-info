/-
  C03/C04 — a decoder that knows only a `PortableRegistry` and the SCALE rules (`decodeVal`) inverts the SCALE encoder on
  every well-typed value, and every value of a built-in type is well typed against any registry that describes the type
  faithfully. Also the shapes of `char` (no codec encoding), tuples, `NonZero*`, `Duration`, and the `N as u32` array length.
-/
import SIM.Lemmas.ValueD
namespace SIM
namespace C04
open Value Spec Impls

theorem decode_encode (reg : PortableRegistry) (id : Nat) (v : Val) (h : HasTy reg id v) (rest : Codec.Bytes) :
    ∃ fuel, decodeVal reg fuel id (encode v ++ rest) = some (v, rest) :=
  ⟨sizeOf v + 1, hasTy_decodes reg id v h _ (Nat.lt_succ_self _) rest⟩

theorem decode_fuel_mono (reg : PortableRegistry) (f k id : Nat) (bs : Codec.Bytes) (r : Val × Codec.Bytes)
    (h : decodeVal reg f id bs = some r) : decodeVal reg (f + k) id bs = some r := by
  induction k with
  | zero => exact h
  | succ k ih => exact decodeVal_mono_succ reg (f + k) id bs r ih

theorem variant_index_first_byte (name : Str) (idx : Nat) (fs : List (Option Str × Val)) :
    (encode (.variant name idx fs)).head? = some (UInt8.ofNat idx) := by
  rfl

theorem builtin_typed (docs : Bool) (S : TyExpr → Prop) (reg : PortableRegistry) (idOf : TyExpr → Nat)
    (hf : Faithful docs S reg idOf) (t : TyExpr) (v : Val) (hs : S t) (hv : ValOf t v) : HasTy reg (idOf t) v :=
  derived_typed_aux hf.toD t v (hv.toD _) (.of (.of hs))

/-- the built-in impls describe the real SCALE encoding of std types, nested to any depth -/
theorem builtin_roundtrip (docs : Bool) (S : TyExpr → Prop) (reg : PortableRegistry) (idOf : TyExpr → Nat)
    (hf : Faithful docs S reg idOf) (t : TyExpr) (v : Val) (hs : S t) (hv : ValOf t v) (rest : Codec.Bytes) :
    ∃ fuel, decodeVal reg fuel (idOf t) (encode v ++ rest) = some (v, rest) :=
  decode_encode reg (idOf t) v (builtin_typed docs S reg idOf hf t v hs hv) rest

/-- `TypeDefTuple::new` (src/ty/mod.rs:479-497) drops the `PhantomData` members -/
theorem tuple_shape (docs : Bool) (h r : TyExpr) :
    typeInfo docs (.tupleCons h r) = some (Build.ofDef (.tuple ((h :: elems r).filter (fun t => !isPhantom t)))) := rfl

/-- `char` has no codec encoding -/
theorem char_shape (docs : Bool) : typeInfo docs .char = some (Build.ofDef (.primitive .char)) := rfl

theorem nonzero_shape (docs : Bool) (w : W) :
    typeInfo docs (.nonZeroU w) = some (mk [nonZeroUName w] [] (.composite [uf (.uint w)])) ∧
    typeInfo docs (.nonZeroI w) = some (mk [nonZeroIName w] [] (.composite [uf (.sint w)])) :=
  -- `push_field` keeps the member, an integer being no marker
  ⟨rfl, rfl⟩

/-- `u64` seconds, `u32` nanoseconds -/
theorem duration_shape (docs : Bool) : ∃ ty, typeInfo docs .duration = some ty ∧ ty.path = [sDuration] ∧
    ty.def_.refs = [.uint .w64, .uint .w32] :=
  ⟨_, rfl, rfl, rfl⟩

/-- the one point where the description cannot follow the type: array lengths are stored as u32 -/
theorem array_len_mod (docs : Bool) (n : Nat) (t : TyExpr) :
    typeInfo docs (.array n t) = some (Build.ofDef (.array (n % 4294967296) t)) := rfl

end C04
end SIM
