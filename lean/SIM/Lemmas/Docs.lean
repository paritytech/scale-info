/-
  SIM.Lemmas.Docs — erasing documentation (`Spec.stripDocs` and its parts) commutes with `refs`, `fill`, `insertSorted`,
  `toPortable` and the derive's expected members.
-/
import SIM.Spec.Docs
import SIM.Spec.Derive
namespace SIM
namespace DocsL
open Spec Registry

theorem fieldRefs_strip {R} (fs : List (Field R)) : fieldRefs (fs.map stripField) = fieldRefs fs := by
  unfold fieldRefs
  rw [List.map_map]
  rfl

theorem variantRefs_strip {R} (vs : List (Variant R)) : variantRefs (vs.map stripVariant) = variantRefs vs := by
  unfold variantRefs
  rw [List.flatMap_map]
  exact congrArg (List.flatMap · vs) (funext fun v => fieldRefs_strip v.fields)

theorem stripDef_refs {R} (d : TypeDef R) : (stripDef d).refs = d.refs := by
  cases d <;> simp only [stripDef, TypeDef.refs, fieldRefs_strip, variantRefs_strip]

theorem fillFields_strip {R R'} [Inhabited R'] (fs : List (Field R)) (rs : List R') :
    fillFields (fs.map stripField) rs = ((fillFields fs rs).1.map stripField, (fillFields fs rs).2) := by
  induction fs generalizing rs with
  | nil => rfl
  | cons f fs ih =>
    simp only [List.map_cons, fillFields, ih]
    rfl

theorem fillVariants_strip {R R'} [Inhabited R'] : ∀ (vs : List (Variant R)) (rs : List R'),
    fillVariants (vs.map stripVariant) rs = ((fillVariants vs rs).1.map stripVariant, (fillVariants vs rs).2)
  | [], _ => rfl
  | v :: vs, rs => by
    simp only [List.map_cons, fillVariants, stripVariant, fillFields_strip, fillVariants_strip vs]

theorem stripDef_fill {R R'} [Inhabited R'] (d : TypeDef R) (rs : List R') :
    (stripDef d).fill rs = stripDef (d.fill rs) := by
  cases d <;> simp only [stripDef, TypeDef.fill, fillFields_strip, fillVariants_strip]

theorem stripField_idem {R} (f : Field R) : stripField (stripField f) = stripField f := rfl

theorem stripVariant_idem {R} (v : Variant R) : stripVariant (stripVariant v) = stripVariant v := by
  simp only [stripVariant, List.map_map, Function.comp_def, stripField_idem]

theorem stripDef_idem {R} (d : TypeDef R) : stripDef (stripDef d) = stripDef d := by
  cases d <;> simp only [stripDef, List.map_map, Function.comp_def, stripField_idem, stripVariant_idem]

theorem insertSorted_strip (k : Nat) (d : Ty Nat) : ∀ (l : List (Nat × Ty Nat)),
    insertSorted k (stripDocs d) (l.map (fun kd => (kd.1, stripDocs kd.2))) =
      (insertSorted k d l).map (fun kd => (kd.1, stripDocs kd.2))
  | [] => rfl
  | (k', d') :: l => by
    simp only [List.map_cons, insertSorted, apply_ite (List.map _), insertSorted_strip k d l]

theorem toPortable_strip (s : RegState) : toPortable (stripState s) = stripReg (toPortable s) := by
  unfold toPortable stripReg stripState
  simp only [List.map_map]
  rfl

open Derive

theorem members_strip (tn : Str → Str) (b : Bool) (c : Capture) (fs : List FieldD) :
    (membersExpected tn b c fs).map stripField = membersExpected tn false .never fs := by
  unfold membersExpected
  rw [List.map_map]
  rfl

theorem variants_strip (tn : Str → Str) (b : Bool) (c : Capture) (vs : List VariantD) :
    (variantsExpected tn b c vs).map stripVariant = variantsExpected tn false .never vs := by
  unfold variantsExpected
  rw [List.map_map]
  exact List.map_congr_left fun iv _ => congrArg (Variant.mk _ · _ _) (members_strip ..)

end DocsL
end SIM
