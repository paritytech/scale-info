/-
  SIM.Lemmas.Json — `toRegistry ∘ ofRegistry` and `jsonShape ∘ ofRegistry`, bottom-up.  For each struct with omissible members
  one reader lemma is general in the object the reader is given (`deField_of_members`, `deVariant_of_members`,
  `deTy_of_members`): if the members the struct knows are there (`Member`) the value is read.  The map form (here), the
  positional form (`Lemmas.JsonPos`) and the form with unknown members (`Lemmas.JsonJunk`) are instances.
-/
import SIM.Lemmas.Keys
import SIM.Model.Codec
namespace SIM
namespace JsonM
open Codec Spec

theorem deList_map {α} (f : Json → De α) (g : α → Json) (l : List α)
    (h : ∀ x ∈ l, f (g x) = .ok x) : deList f (l.map g) = .ok l := by
  induction l with
  | nil => rfl
  | cons a l ih =>
    simp only [List.map_cons, deList]
    rw [h a (by simp), ih (fun x hx => h x (by simp [hx]))]

theorem deArr_map {α} (f : Json → De α) (g : α → Json) (l : List α)
    (h : ∀ x ∈ l, f (g x) = .ok x) : deArr f (.arr (l.map g)) = .ok l :=
  deList_map f g l h

theorem req_some {α} {kv : List (Key × Json)} {k : Key} {v : Json} (f : Json → De α)
    (h : getKey kv k = some v) : req kv k f = f v := by
  simp only [req, h]

theorem dflt_member {α} {kv : List (Key × Json)} {k : Key} {v : Json} {absent : Prop} {d x : α} {rd : Json → De α}
    (h : Member kv k v absent) (hv : rd v = .ok x) (ho : absent → x = d) : dflt kv k d rd = .ok x := by
  rcases h with h | ⟨ha, h⟩
  · simp only [dflt, h, hv]
  · simp only [dflt, h, ho ha]

theorem deStrs_jStrs (l : List Str) : deArr deStr (jStrs l) = .ok l :=
  deArr_map deStr jStr l (fun _ _ => rfl)

theorem deOpt_posOpt (o : Option Str) : deOpt deStr (posOpt o) = .ok o := by
  cases o <;> rfl

theorem deU_num {b n : Nat} (h : n < b) : deU b (.num n) = .ok n := by
  simp [deU, h]

theorem primOfName_primName (p : Prim) : primOfName (primName p) = some p := by
  cases p <;> decide

theorem deU_ok {b : Nat} {j : Json} {n : Nat} (h : deU b j = .ok n) : n < b := by
  unfold deU at h
  split at h
  · split at h
    · cases h; assumption
    · cases h
  · cases h

section
variable {α : Type} {f : Json → De α} {P : α → Prop} (hf : ∀ {v a}, f v = .ok a → P a)
include hf

theorem req_sat {kv : List (Key × Json)} {k : Key} {a : α} (h : req kv k f = .ok a) : P a := by
  unfold req at h
  split at h
  · cases h
  · exact hf h

theorem dflt_sat {kv : List (Key × Json)} {k : Key} {d a : α} (h : dflt kv k d f = .ok a) (hd : P d) : P a := by
  unfold dflt at h
  split at h
  · cases h; exact hd
  · exact hf h

theorem deOpt_sat {j : Json} {o : Option α} (h : deOpt f j = .ok o) : ∀ a, o = some a → P a := by
  unfold deOpt at h
  split at h
  · cases h; nofun
  · split at h
    · cases h
    · cases h; rintro _ ⟨⟩; exact hf ‹_›

theorem deList_sat : ∀ {l : List Json} {r : List α}, deList f l = .ok r → ∀ a ∈ r, P a
  | [], _, h => by cases h; nofun
  | v :: l, r, h => by
    unfold deList at h
    split at h
    · cases h
    · split at h
      · cases h
      · cases h; exact List.forall_mem_cons.2 ⟨hf ‹_›, deList_sat ‹_›⟩

theorem deArr_sat {j : Json} {r : List α} (h : deArr f j = .ok r) : ∀ a ∈ r, P a := by
  unfold deArr at h
  split at h
  · exact deList_sat hf h
  · cases h
end

theorem optKey_if {kv : List (Key × Json)} {k : Key} {v : Json} {c : Bool} (p : Json → Bool)
    (hk : getKey kv k = if c = true then some v else none) (h : c = true → p v = true) : optKey kv k p = true := by
  cases c
  · simp [optKey, hk]
  · simpa [optKey, hk] using h rfl

theorem reqKey_some {kv : List (Key × Json)} {k : Key} {v : Json} (p : Json → Bool)
    (hk : getKey kv k = some v) (h : p v = true) : reqKey kv k p = true := by
  simp only [reqKey, hk, h]

theorem arrOf_map (p : Json → Bool) {α} (g : α → Json) (l : List α) (h : ∀ x ∈ l, p (g x) = true) :
    arrOf p (.arr (l.map g)) = true := by
  simp only [arrOf, List.all_eq_true, List.mem_map]
  rintro _ ⟨x, hx, rfl⟩
  exact h x hx

theorem nonEmptyArr_map (p : Json → Bool) {α} (g : α → Json) (l : List α) (h : ∀ x ∈ l, p (g x) = true)
    (hne : (!l.isEmpty) = true) : nonEmptyArr p (.arr (l.map g)) = true := by
  cases l with
  | nil => cases hne
  | cons a l =>
    simp only [List.map_cons, nonEmptyArr, Bool.and_eq_true, List.all_eq_true, List.mem_map]
    refine ⟨h a (by simp), ?_⟩
    rintro _ ⟨x, hx, rfl⟩
    exact h x (by simp [hx])

theorem isStr_posOpt (o : Option Str) (h : o.isSome = true) : isStr (posOpt o) = true := by
  cases o with
  | none => cases h
  | some s => rfl

theorem nonEmptyStrs (l : List Str) : (!l.isEmpty) = true → nonEmptyArr isStr (jStrs l) = true :=
  nonEmptyArr_map isStr jStr l (fun _ _ => rfl)

theorem deField_of_members {j : Json} {kv : List (Key × Json)} {f : Field Nat}
    (hs : asStruct [.name, .type_, .typeName, .docs] j = .ok kv)
    (h1 : Member kv .name (posOpt f.name) (f.name = none)) (h2 : getKey kv .type_ = some (.num f.ty))
    (h3 : Member kv .typeName (posOpt f.typeName) (f.typeName = none)) (h4 : Member kv .docs (jStrs f.docs) (f.docs = []))
    (h : f.ty < 4294967296) : deField j = .ok f := by
  simp only [deField, hs]
  rw [dflt_member h1 (deOpt_posOpt _) id, req_some _ h2, dflt_member h3 (deOpt_posOpt _) id,
    dflt_member h4 (deStrs_jStrs _) id]
  simp only [deU32, deU_num h]

/-- the members of a field object exactly as `ofField` writes them -/
def FieldKeys (kv : List (Key × Json)) (f : Field Nat) : Prop :=
  getKey kv .name = (if f.name.isSome = true then some (posOpt f.name) else none) ∧
  getKey kv .type_ = some (.num f.ty) ∧
  getKey kv .typeName = (if f.typeName.isSome = true then some (posOpt f.typeName) else none) ∧
  getKey kv .docs = (if (!f.docs.isEmpty) = true then some (jStrs f.docs) else none)

theorem deField_of_keys {kv : List (Key × Json)} {f : Field Nat} (hk : FieldKeys kv f) (h : okField f) :
    deField (.obj kv) = .ok f :=
  deField_of_members rfl (.of_if hk.1 (by simp)) hk.2.1 (.of_if hk.2.2.1 (by simp)) (.of_if hk.2.2.2 (by simp)) h.2.1

/-- `ofField` writes an optional name as `posOpt` does; only whether it is written differs -/
theorem ofField_eq (f : Field Nat) : ofField f = .obj (optMember f.name.isSome .name (posOpt f.name)
    ++ [(.type_, .num f.ty)] ++ optMember f.typeName.isSome .typeName (posOpt f.typeName)
    ++ optMember (!f.docs.isEmpty) .docs (jStrs f.docs)) := rfl

theorem field_keys (f : Field Nat) : ∃ kv, ofField f = .obj kv ∧
    (keysOf kv).Sublist [.name, .type_, .typeName, .docs] ∧ FieldKeys kv f := by
  refine ⟨_, ofField_eq f, ?_, ?_⟩
  · simp only [keysOf_append]
    exact (((keysOf_optMember ..).append (.refl _)).append (keysOf_optMember ..)).append (keysOf_optMember ..)
  · simp [FieldKeys, getKey_append, getKey_optMember, getKey_cons]

theorem deField_ofField (f : Field Nat) (h : okField f) : deField (ofField f) = .ok f := by
  obtain ⟨kv, he, -, hk⟩ := field_keys f
  exact he ▸ deField_of_keys hk h

theorem fieldShape_ofField (f : Field Nat) : fieldShape (ofField f) = true := by
  obtain ⟨kv, he, ha, h1, h2, h3, h4⟩ := field_keys f
  simp only [he, fieldShape, allowed_of_sublist ha (by decide), optKey_if isStr h1 (isStr_posOpt _),
    reqKey_some isNum h2 rfl, optKey_if isStr h3 (isStr_posOpt _), optKey_if _ h4 (nonEmptyStrs _), Bool.and_self]

theorem listMember_keys {α} (k : Key) (g : α → Json) (l : List α) :
    (keysOf (optMember (!l.isEmpty) k (.arr (l.map g)))).Sublist [k] ∧
    getKey (optMember (!l.isEmpty) k (.arr (l.map g))) k = if (!l.isEmpty) = true then some (.arr (l.map g)) else none :=
  ⟨keysOf_optMember .., by simp [getKey_optMember]⟩

theorem dflt_list {α} {kv : List (Key × Json)} {k : Key} (rd : Json → De α) (g : α → Json) (l : List α)
    (hk : getKey kv k = if (!l.isEmpty) = true then some (.arr (l.map g)) else none)
    (h : ∀ x ∈ l, rd (g x) = .ok x) : dflt kv k [] (deArr rd) = .ok l :=
  dflt_member (.of_if hk (by simp)) (deArr_map rd g l h) id

theorem listMember_shape {α} (p : Json → Bool) (k : Key) (g : α → Json) (l : List α) (h : ∀ x ∈ l, p (g x) = true) :
    (allowed (optMember (!l.isEmpty) k (.arr (l.map g))) [k]
      && optKey (optMember (!l.isEmpty) k (.arr (l.map g))) k (nonEmptyArr p)) = true := by
  have hk := listMember_keys k g l
  rw [allowed_of_sublist hk.1 (by simp), optKey_if _ hk.2 (nonEmptyArr_map p g l h)]; rfl

theorem deVariant_of_members {j : Json} {kv : List (Key × Json)} {gf : Field Nat → Json} {x : Variant Nat}
    (hs : asStruct [.name, .fields, .index, .docs] j = .ok kv)
    (h1 : getKey kv .name = some (jStr x.name)) (h2 : Member kv .fields (.arr (x.fields.map gf)) (x.fields = []))
    (h3 : getKey kv .index = some (.num x.index)) (h4 : Member kv .docs (jStrs x.docs) (x.docs = []))
    (hg : ∀ f ∈ x.fields, deField (gf f) = .ok f) (h : x.index < 256) : deVariant j = .ok x := by
  simp only [deVariant, hs]
  rw [req_some _ h1, dflt_member h2 (deArr_map deField gf _ hg) id, req_some _ h3, dflt_member h4 (deStrs_jStrs _) id]
  simp only [deU8, deU_num h, jStr, deStr]

/-- the members as `ofVariant` writes them, the fields written by `gf` -/
def VariantKeys (gf : Field Nat → Json) (kv : List (Key × Json)) (x : Variant Nat) : Prop :=
  getKey kv .name = some (jStr x.name) ∧
  getKey kv .fields = (if (!x.fields.isEmpty) = true then some (.arr (x.fields.map gf)) else none) ∧
  getKey kv .index = some (.num x.index) ∧
  getKey kv .docs = (if (!x.docs.isEmpty) = true then some (jStrs x.docs) else none)

theorem deVariant_of_keys {kv : List (Key × Json)} {gf : Field Nat → Json} {x : Variant Nat} (hk : VariantKeys gf kv x)
    (hg : ∀ f, okField f → deField (gf f) = .ok f) (h : okVariant x) : deVariant (.obj kv) = .ok x :=
  deVariant_of_members rfl hk.1 (.of_if hk.2.1 (by simp)) hk.2.2.1 (.of_if hk.2.2.2 (by simp))
    (fun f hf => hg f (h.2.1.2 f hf)) h.2.2.1

theorem variant_keys (v : Variant Nat) : ∃ kv, ofVariant v = .obj kv ∧
    (keysOf kv).Sublist [.name, .fields, .index, .docs] ∧ VariantKeys ofField kv v := by
  refine ⟨_, rfl, ?_, ?_⟩
  · simp only [keysOf_append]
    exact (((List.Sublist.refl _).append (keysOf_optMember ..)).append (.refl _)).append (keysOf_optMember ..)
  · simp [VariantKeys, ofFields, getKey_append, getKey_optMember, getKey_cons, jStrs]

theorem deVariant_ofVariant (v : Variant Nat) (h : okVariant v) : deVariant (ofVariant v) = .ok v := by
  obtain ⟨kv, he, -, hk⟩ := variant_keys v
  exact he ▸ deVariant_of_keys hk deField_ofField h

theorem variantShape_ofVariant (v : Variant Nat) : variantShape (ofVariant v) = true := by
  obtain ⟨kv, he, ha, h1, h2, h3, h4⟩ := variant_keys v
  simp only [he, variantShape, allowed_of_sublist ha (by decide), reqKey_some isStr h1 rfl,
    optKey_if _ h2 (nonEmptyArr_map _ _ _ fun f _ => fieldShape_ofField f), reqKey_some isNum h3 rfl,
    optKey_if _ h4 (nonEmptyStrs _), Bool.and_self]

theorem deTypeDef_ofTypeDef (d : TypeDef Nat) (h : okTypeDef d) : deTypeDef (ofTypeDef d) = .ok d := by
  cases d with
  | composite fs =>
    simp only [ofTypeDef, ofFields, deTypeDef, asStruct,
      dflt_list deField ofField fs (listMember_keys ..).2 fun f hf => deField_ofField f (h.2 f hf)]
  | variant vs =>
    simp only [ofTypeDef, deTypeDef, asStruct,
      dflt_list deVariant ofVariant vs (listMember_keys ..).2 fun v hv => deVariant_ofVariant v (h.2 v hv)]
  | sequence t | compact t =>
    have h' : t < 4294967296 := h
    simp [ofTypeDef, deTypeDef, deTypeOnly, asStruct, req, getKey, deU32, deU, h']
  | array n t | bitSequence n t =>
    have h1 : n < 4294967296 := h.1
    have h2 : t < 4294967296 := h.2
    simp [ofTypeDef, deTypeDef, asStruct, req, getKey, deU32, deU, h1, h2]
  | tuple ts =>
    simp only [ofTypeDef, deTypeDef,
      deArr_map deU32 Json.num ts (fun t ht => deU_num (h.2 t ht))]
  | primitive p =>
    simp only [ofTypeDef, deTypeDef, dePrim, primOfName_primName]

theorem defShape_ofTypeDef (d : TypeDef Nat) : defShape (ofTypeDef d) = true := by
  cases d with
  | composite fs => exact listMember_shape fieldShape .fields ofField fs fun f _ => fieldShape_ofField f
  | variant vs => exact listMember_shape variantShape .variants ofVariant vs fun v _ => variantShape_ofVariant v
  | sequence _ | array _ _ | compact _ | bitSequence _ _ => rfl
  | tuple ts =>
    simp only [ofTypeDef, defShape, arrOf_map isNum Json.num ts (fun _ _ => rfl)]
  | primitive p =>
    simp only [ofTypeDef, defShape, isPrimName, primOfName_primName, Option.isSome_some]

theorem deParam_ofParam (p : TypeParam Nat) (h : okParam p) : deParam (ofParam p) = .ok p := by
  obtain ⟨name, ty⟩ := p
  cases ty with
  | none => rfl
  | some t =>
    have h' : t < 4294967296 := h.2
    simp [ofParam, deParam, asStruct, req, dflt, getKey, jStr, deStr, deOpt, deU32, deU, h']

theorem paramShape_ofParam (p : TypeParam Nat) : paramShape (ofParam p) = true := by
  obtain ⟨name, ty⟩ := p
  cases ty <;> rfl

theorem deTy_of_members {j : Json} {kv : List (Key × Json)} {gp : TypeParam Nat → Json} {jd : Json} {t : Ty Nat}
    (hs : asStruct [.path, .params, .def_, .docs] j = .ok kv)
    (h1 : Member kv .path (jStrs t.path) (t.path = [])) (h2 : Member kv .params (.arr (t.params.map gp)) (t.params = []))
    (h3 : getKey kv .def_ = some jd) (h4 : Member kv .docs (jStrs t.docs) (t.docs = []))
    (hp : ∀ p ∈ t.params, deParam (gp p) = .ok p) (hd : deTypeDef jd = .ok t.def_) : deTy j = .ok t := by
  simp only [deTy, hs]
  rw [dflt_member h1 (deStrs_jStrs _) id, dflt_member h2 (deArr_map deParam gp _ hp) id, req_some _ h3,
    dflt_member h4 (deStrs_jStrs _) id]
  simp only [hd]

/-- the members as `ofTy` writes them, the parameters written by `gp`, the definition by `gd` -/
def TyKeys (gp : TypeParam Nat → Json) (gd : TypeDef Nat → Json) (kv : List (Key × Json)) (t : Ty Nat) : Prop :=
  getKey kv .path = (if (!t.path.isEmpty) = true then some (jStrs t.path) else none) ∧
  getKey kv .params = (if (!t.params.isEmpty) = true then some (.arr (t.params.map gp)) else none) ∧
  getKey kv .def_ = some (gd t.def_) ∧
  getKey kv .docs = (if (!t.docs.isEmpty) = true then some (jStrs t.docs) else none)

theorem deTy_of_keys {kv : List (Key × Json)} {gp : TypeParam Nat → Json} {gd : TypeDef Nat → Json} {t : Ty Nat}
    (hk : TyKeys gp gd kv t) (hp : ∀ p, okParam p → deParam (gp p) = .ok p)
    (hd : ∀ d, okTypeDef d → deTypeDef (gd d) = .ok d) (h : okTy t) : deTy (.obj kv) = .ok t :=
  deTy_of_members rfl (.of_if hk.1 (by simp)) (.of_if hk.2.1 (by simp)) hk.2.2.1 (.of_if hk.2.2.2 (by simp))
    (fun p hm => hp p (h.2.1.2 p hm)) (hd _ h.2.2.1)

theorem ty_keys (t : Ty Nat) : ∃ kv, ofTy t = .obj kv ∧
    (keysOf kv).Sublist [.path, .params, .def_, .docs] ∧ TyKeys ofParam ofTypeDef kv t := by
  refine ⟨_, rfl, ?_, ?_⟩
  · simp only [keysOf_append]
    exact (((keysOf_optMember ..).append (keysOf_optMember ..)).append (.refl _)).append (keysOf_optMember ..)
  · simp [TyKeys, getKey_append, getKey_optMember, getKey_cons, jStrs]

theorem deTy_ofTy (t : Ty Nat) (h : okTy t) : deTy (ofTy t) = .ok t := by
  obtain ⟨kv, he, -, hk⟩ := ty_keys t
  exact he ▸ deTy_of_keys hk deParam_ofParam deTypeDef_ofTypeDef h

theorem tyShape_ofTy (t : Ty Nat) : tyShape (ofTy t) = true := by
  obtain ⟨kv, he, ha, h1, h2, h3, h4⟩ := ty_keys t
  simp only [he, tyShape, allowed_of_sublist ha (by decide), optKey_if _ h1 (nonEmptyStrs _),
    optKey_if _ h2 (nonEmptyArr_map _ _ _ fun p _ => paramShape_ofParam p),
    reqKey_some defShape h3 (defShape_ofTypeDef t.def_), optKey_if _ h4 (nonEmptyStrs _), Bool.and_self]

theorem dePType_ofPType (p : PType) (h : okPType p) : dePType (ofPType p) = .ok p := by
  have h' : p.id < 4294967296 := h.1
  simp [ofPType, dePType, asStruct, req, getKey, deU32, deU, h', deTy_ofTy p.ty h.2]

theorem ptypeShape_ofPType (p : PType) : ptypeShape (ofPType p) = true := by
  have ha : allowed [(Key.id, Json.num p.id), (Key.type_, ofTy p.ty)] [.id, .type_] = true := rfl
  simp [ofPType, ptypeShape, ha, reqKey, getKey, isNum, tyShape_ofTy]

theorem toRegistry_ofRegistry (r : PortableRegistry) (h : Bounded r) : toRegistry (ofRegistry r) = .ok r :=
  deArr_map dePType ofPType r (fun p hp => dePType_ofPType p (h.2 p hp))

end JsonM
end SIM
