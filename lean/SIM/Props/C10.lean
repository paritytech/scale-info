/-
  C10 — `PortableRegistry::retain(filter)` on a well-formed registry never panics and returns a
  well-formed registry together with a map `old id ↦ new id` whose keys are exactly the ids reachable
  from the accepted ids, which is a bijection onto the new ids, and under which every retained entry
  is its original with every reference sent through the map.
-/
import SIM.Lemmas.Retain
namespace SIM
namespace C10
open Retain Reg

theorem retain_total (r : PortableRegistry) (hw : WF r) (keep : Nat → Bool) : (retain r keep).isSome := by
  obtain ⟨_, _, _, _, _, h⟩ := retain_eq_register hw keep
  rw [h]; rfl

theorem retain_bij (r : PortableRegistry) (hw : WF r) (keep : Nat → Bool) (r' : PortableRegistry)
    (m : List (Nat × Nat)) (h : retain r keep = some (r', m)) :
    (m.map (·.1)).Nodup ∧ m.map (·.2) = List.range r'.length := by
  obtain ⟨s, _, _, hc, _, rfl, rfl⟩ := retain_spec hw keep h
  rw [List.zipIdx_map_fst, List.zipIdx_map_snd, hc.portable_length, List.range_eq_range']
  exact ⟨hc.inv.nodup, rfl⟩

theorem retain_lookup (r : PortableRegistry) (hw : WF r) (keep : Nat → Bool) (r' : PortableRegistry)
    (m : List (Nat × Nat)) (h : retain r keep = some (r', m)) (o n : Nat) :
    (o, n) ∈ m ↔ lookup m o = some n := by
  obtain ⟨s, _, _, hc, _, _, rfl⟩ := retain_spec hw keep h
  exact mem_zipIdx_iff_lookup hc.inv.nodup

theorem retain_entry (r : PortableRegistry) (hw : WF r) (keep : Nat → Bool) (r' : PortableRegistry)
    (m : List (Nat × Nat)) (h : retain r keep = some (r', m)) (o n : Nat) (hm : (o, n) ∈ m) :
    ∃ e, r[o]? = some e ∧ r'[n]? = some { id := n, ty := e.ty.map (fun x => (lookup m x).getD 0) } := by
  obtain ⟨s, _, _, hc, hlt, rfl, rfl⟩ := retain_spec hw keep h
  -- the map pairs the interned identity `o` with its position `n = idOf s o`
  have hn : s.table.vec[n]? = some o := List.mem_zipIdx_iff_getElem?.1 hm
  have ho := List.mem_of_getElem? hn
  obtain ⟨he, hrefs⟩ := hc.entry ho
  refine ⟨r[o]'(hlt o ho), List.getElem?_eq_getElem _, ?_⟩
  rw [← ((getElem?_eq_some_iff_idxOf hc.inv.nodup).1 hn).2, ← graph_eq (hlt o ho)]
  refine (hc.portable_getElem? he).trans ?_
  -- the entry maps references by `idOf s`, which on the (interned) references of `o` is the lookup in the map
  congr 2
  refine Ty.map_congr _ _ _ fun c hc' => ?_
  rw [lookup_zipIdx, if_pos (hrefs c hc')]
  rfl

theorem retain_wf (r : PortableRegistry) (hw : WF r) (keep : Nat → Bool) (r' : PortableRegistry)
    (m : List (Nat × Nat)) (h : retain r keep = some (r', m)) : WF r' := by
  obtain ⟨s, _, _, hc, _, rfl, _⟩ := retain_spec hw keep h
  exact hc.wf

theorem retain_keys (r : PortableRegistry) (hw : WF r) (keep : Nat → Bool) (r' : PortableRegistry)
    (m : List (Nat × Nat)) (h : retain r keep = some (r', m)) (k : Nat) :
    (∃ n, (k, n) ∈ m) ↔ ReachR r (fun i => i < r.length ∧ keep i = true) k := by
  obtain ⟨s, _, htl, hc, _, _, rfl⟩ := retain_spec hw keep h
  obtain ⟨_, hP, hroots, _⟩ := registerTypes_post I_empty htl
  -- the keys are the interned identities: those reachable in `graph r` from the accepted ids
  simp only [List.mem_zipIdx_iff_getElem?, ← List.mem_iff_getElem?]
  rw [← reach_graph_iff hw (roots := (List.range r.length).filter keep) (by simp [List.mem_filter])
    fun i hi => List.mem_range.1 (List.mem_filter.1 hi).1]
  exact ⟨fun hk => (hP.reach k hk).resolve_left List.not_mem_nil, hc.closed hroots⟩

private def prim (p : Prim) : Ty Nat := { path := [], params := [], def_ := .primitive p, docs := [] }

/-- 0: `Wrapper<T = #3>(u8)`, so `#3` is referenced by the parameter only; 1: `u8`; 2: `bool`, unreachable from 0;
    3: `Node { next: #4, parent: #3, tag: #1 }`; 4: sequence of `#3` -/
def demo : PortableRegistry :=
  [ { id := 0, ty := { path := [[87]], params := [{ name := [84], ty := some 3 }],
                        def_ := .composite [{ name := none, ty := 1, typeName := none, docs := [] }], docs := [] } },
    { id := 1, ty := prim .u8 },
    { id := 2, ty := prim .bool },
    { id := 3, ty := { path := [[78]], params := [],
                        def_ := .composite [{ name := some [110], ty := 4, typeName := none, docs := [] },
                                            { name := some [112], ty := 3, typeName := none, docs := [] },
                                            { name := some [116], ty := 1, typeName := none, docs := [] }], docs := [] } },
    { id := 4, ty := { path := [], params := [], def_ := .sequence 3, docs := [] } } ]

example : WF demo := by
  unfold WF
  decide

/-- keeping only id 0 retains 0, 3, 4, 1 (in visiting order: the parameter before the field) and drops 2 -/
example : retain demo (fun i => i == 0) = some
    ([ { id := 0, ty := { path := [[87]], params := [{ name := [84], ty := some 1 }],
                          def_ := .composite [{ name := none, ty := 3, typeName := none, docs := [] }], docs := [] } },
       { id := 1, ty := { path := [[78]], params := [],
                          def_ := .composite [{ name := some [110], ty := 2, typeName := none, docs := [] },
                                              { name := some [112], ty := 1, typeName := none, docs := [] },
                                              { name := some [116], ty := 3, typeName := none, docs := [] }], docs := [] } },
       { id := 2, ty := { path := [], params := [], def_ := .sequence 1, docs := [] } },
       { id := 3, ty := prim .u8 } ],
     [(0, 0), (3, 1), (4, 2), (1, 3)]) := by
  decide +kernel

end C10
end SIM
