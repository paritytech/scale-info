/-
  C18 — Paths are non-empty sequences of valid Rust identifiers.

  `Spec.isIdent` is the regular expression `(r#)?[A-Za-z_][A-Za-z0-9_]*` of the statement.
  The model (`SIM.Model.Path`) transcribes src/utils.rs and src/ty/path.rs.
-/
import SIM.Model.Path
namespace SIM
namespace C18
open PathM

theorem tailOk_ascii {b : UInt8} (h : tailOk b = true) : isAscii b = true := by
  have up : ∀ k : UInt8, k < 128 → b ≤ k → isAscii b = true := fun k hk hb => decide_eq_true (UInt8.lt_of_le_of_lt hb hk)
  simp only [tailOk, isDigit, isLower, isUpper, Bool.or_eq_true, Bool.and_eq_true, decide_eq_true_eq, beq_iff_eq] at h
  -- `_`, or a letter or digit: in a range whose upper end is below 128
  rcases h with ((rfl | h) | h) | h
  · decide
  all_goals exact up _ (by decide) h.2

theorem headOk_ascii {b : UInt8} (h : headOk b = true) : isAscii b = true :=
  tailOk_ascii (by rw [show tailOk b = (headOk b || isDigit b) from rfl, h]; rfl)

theorem body_ascii {s : Str} (h : Spec.isIdentBody s = true) : s.all isAscii = true := by
  cases s with
  | nil => simp [Spec.isIdentBody] at h
  | cons a t =>
    simp only [Spec.isIdentBody, Bool.and_eq_true, List.all_eq_true] at h
    simp only [List.all_cons, Bool.and_eq_true, List.all_eq_true]
    exact ⟨headOk_ascii h.1, fun x hx => tailOk_ascii (h.2 x hx)⟩

theorem body_eq (s : Str) : identBody s = Spec.isIdentBody s := by
  cases s <;> rfl

/-- `#` is not an identifier character -/
theorem body_raw_false (rest : Str) : Spec.isIdentBody (114 :: 35 :: rest) = false := by
  simp [Spec.isIdentBody, tailOk, isLower, isUpper, isDigit]

theorem ident_iff (s : Str) : isRustIdentifier s = Spec.isIdent s := by
  -- both sides are the body test on the string with one `r#` stripped: a body is ASCII, and so is `r#`
  have hS : Spec.isIdent s = Spec.isIdentBody (stripRawOnce s) := by
    unfold Spec.isIdent stripRawOnce
    split
    · rw [body_raw_false, Bool.or_false]
    · rfl
  have hA : Spec.isIdentBody (stripRawOnce s) = true → s.all isAscii = true := by
    intro hb
    have := body_ascii hb
    unfold stripRawOnce at this
    split at this
    · simpa [isAscii] using this
    · exact this
  rw [hS, isRustIdentifier, trimRaw, body_eq]
  cases hb : Spec.isIdentBody (stripRawOnce s)
  · simp
  · simp [hA hb]

theorem position_eq_findIdx? {α} (p : α → Bool) (l : List α) : position p l = l.findIdx? p := by
  induction l with
  | nil => rfl
  | cons a t ih => rw [position, List.findIdx?_cons, ih]

theorem fromSegments_eq (segs : List Str) : fromSegments segs =
    if segs.isEmpty then .error .missingSegments
    else match segs.findIdx? (fun s => !Spec.isIdent s) with
      | some i => .error (.invalidIdentifier i)
      | none => .ok segs := by
  rw [fromSegments, position_eq_findIdx?, funext ident_iff]
  rfl

theorem fromSegments_ok_iff (segs p : List Str) :
    fromSegments segs = .ok p ↔ (segs ≠ [] ∧ (∀ s ∈ segs, Spec.isIdent s = true) ∧ p = segs) := by
  have key := List.findIdx?_eq_none_iff (xs := segs) (p := fun s => !Spec.isIdent s)
  simp only [Bool.not_eq_eq_eq_not, Bool.not_false] at key
  rw [fromSegments_eq, ← key]
  cases segs with
  | nil => simp
  | cons a t => cases (a :: t).findIdx? (fun s => !Spec.isIdent s) <;> simp [eq_comm]

theorem fromSegments_empty : fromSegments [] = .error .missingSegments := rfl

theorem fromSegments_first_bad (segs : List Str) (i : Nat) :
    fromSegments segs = .error (.invalidIdentifier i) ↔
      ∃ h : i < segs.length, Spec.isIdent segs[i] = false ∧
        ∀ j (hj : j < i), Spec.isIdent (segs[j]'(by omega)) = true := by
  have key := List.findIdx?_eq_some_iff_getElem (xs := segs) (p := fun s => !Spec.isIdent s) (i := i)
  simp only [Bool.not_eq_true', Bool.not_eq_false] at key
  rw [fromSegments_eq, ← key]
  cases segs with
  | nil => simp
  | cons a t => cases (a :: t).findIdx? (fun s => !Spec.isIdent s) <;> simp

theorem splitColons_ne_nil (cur m : Str) : splitColons cur m ≠ [] := by
  fun_induction splitColons cur m with
  | case1 | case2 => exact List.cons_ne_nil _ _
  | case3 _ _ _ _ ih => exact ih

/-- the segments are `module_path.split("::") ++ [ident]`, never empty -/
theorem newWithReplace_some_iff (ident module : Str) (table : List (Str × Str)) (p : List Str) :
    newWithReplace ident module table = some p ↔
      ((∀ s ∈ (splitColons [] module ++ [ident]).map (replaceSeg table), Spec.isIdent s = true) ∧
       p = (splitColons [] module ++ [ident]).map (replaceSeg table)) := by
  have h : newWithReplace ident module table = some p ↔
      fromSegments ((splitColons [] module ++ [ident]).map (replaceSeg table)) = .ok p := by
    unfold newWithReplace
    cases fromSegments ((splitColons [] module ++ [ident]).map (replaceSeg table)) <;> simp
  rw [h, fromSegments_ok_iff]
  exact and_iff_right (by simp)

theorem newWithReplace_eq (ident module : Str) (table : List (Str × Str)) :
    newWithReplace ident module table =
      if ((splitColons [] module ++ [ident]).map (replaceSeg table)).all Spec.isIdent
      then some ((splitColons [] module ++ [ident]).map (replaceSeg table)) else none := by
  split
  next h => exact (newWithReplace_some_iff ..).2 ⟨List.all_eq_true.1 h, rfl⟩
  next h =>
    exact Option.eq_none_iff_forall_ne_some.2 fun p hp => h (List.all_eq_true.2 ((newWithReplace_some_iff ..).1 hp).1)

theorem replaceSeg_spec (table : List (Str × Str)) (s : Str) :
    replaceSeg table s = match table.find? (fun r => r.1 == s) with | some r => r.2 | none => s := rfl

theorem replaceSeg_nil (s : Str) : replaceSeg [] s = s := rfl

theorem path_accessors (p : List Str) :
    ident p = p.getLast? ∧ namespace_ p = p.dropLast ∧ display p = List.intercalate [58, 58] p := by
  refine ⟨rfl, rfl, ?_⟩
  induction p with
  | nil => rfl
  | cons a t ih =>
    cases t with
    | nil => simp [display, List.intercalate]
    | cons b u =>
      simp only [display]
      rw [ih]
      simp [List.intercalate, List.intersperse]

theorem ident_ns (p : List Str) (h : p ≠ []) : ∃ last, ident p = some last ∧ p = namespace_ p ++ [last] := by
  refine ⟨p.getLast h, ?_, ?_⟩
  · simp [ident, List.getLast?_eq_some_getLast h]
  · simp [namespace_, List.dropLast_concat_getLast h]

/-- `r#type` is accepted, `r#r#foo` is not: the prefix is stripped once (fix commit 67b2ecf in /repo, DESIGN.md §6) -/
example : isRustIdentifier [114, 35, 116, 121, 112, 101] = true := by decide
example : isRustIdentifier [114, 35, 114, 35, 102, 111, 111] = false := by decide
example : fromSegments [[99, 111, 114, 101], [114, 35, 109, 111, 100], [49, 120], [195, 169]]
    = .error (.invalidIdentifier 2) := by decide
example : newWithReplace [84] [97, 58, 58, 98] [([97], [98]), ([98], [97])]
    = some [[98], [97], [84]] := by decide

end C18
end SIM
