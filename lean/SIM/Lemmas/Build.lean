/-
  SIM.Lemmas.Build — every member of every builder is a register (`foldl_register`): a call leaves it alone or overwrites it,
  so after any run it holds what the last call that sets it supplied (`Build.lastSome`).
-/
import SIM.Spec.Build
namespace SIM
namespace Build
open Spec

theorem lastSome_eq {α β} (sel : α → Option β) (l : List α) : lastSome sel l = l.reverse.findSome? sel := by
  rw [lastSome, ← List.foldr_reverse]
  induction l.reverse with
  | nil => rfl
  | cons a l ih => rw [List.foldr_cons, ih, List.findSome?_cons]; cases sel a <;> rfl

@[simp] theorem lastSome_nil {α β} (sel : α → Option β) : lastSome sel [] = none := rfl

theorem lastSome_cons {α β} (sel : α → Option β) (a : α) (l : List α) :
    lastSome sel (a :: l) = (lastSome sel l).or (sel a) := by
  simp [lastSome_eq]

theorem foldl_register {σ α β γ} (step : σ → α → σ) (get : σ → γ) (sel : α → Option β) (put : β → γ)
    (h : ∀ s a, get (step s a) = (sel a).elim (get s) put) (l : List α) (s : σ) :
    get (l.foldl step s) = (lastSome sel l).elim (get s) put := by
  induction l generalizing s with
  | nil => rfl
  | cons a l ih =>
    rw [List.foldl_cons, ih, h, lastSome_cons]
    cases lastSome sel l <;> cases sel a <;> rfl

theorem applyDocs_eq (cfg : Cfg) (cur : List Str) (f : Free) : applyDocs cfg cur f = (docsArg cfg f).elim cur id := by
  cases f with
  | docs l => simp only [applyDocs, docsArg]; split <;> rfl
  | _ => rfl

theorem FB.fold_name {R} (cfg : Cfg) (calls : List (FCall R)) (fb : FB R) :
    (calls.foldl (FB.step cfg) fb).name = (lastSome fNameArg calls).or fb.name := by
  rw [foldl_register (FB.step cfg) FB.name fNameArg some (by rintro s (_ | _ | _ | _ | _ | _) <;> rfl)]
  cases lastSome fNameArg calls <;> rfl

theorem FB.fold_ty {R} (cfg : Cfg) (calls : List (FCall R)) (fb : FB R) :
    (calls.foldl (FB.step cfg) fb).ty = (lastSome fTyArg calls).or fb.ty := by
  rw [foldl_register (FB.step cfg) FB.ty fTyArg some (by rintro s (_ | _ | _ | _ | _ | _) <;> rfl)]
  cases lastSome fTyArg calls <;> rfl

theorem FB.fold_typeName {R} (cfg : Cfg) (calls : List (FCall R)) (fb : FB R) :
    (calls.foldl (FB.step cfg) fb).typeName = (lastSome fTypeNameArg calls).or fb.typeName := by
  rw [foldl_register (FB.step cfg) FB.typeName fTypeNameArg some (by rintro s (_ | _ | _ | _ | _ | _) <;> rfl)]
  cases lastSome fTypeNameArg calls <;> rfl

theorem FB.fold_docs {R} (cfg : Cfg) (calls : List (FCall R)) (fb : FB R) :
    (calls.foldl (FB.step cfg) fb).docs = (lastSome (fDocsArg cfg) calls).getD fb.docs := by
  rw [foldl_register (FB.step cfg) FB.docs (fDocsArg cfg) id (by
    rintro s (_ | _ | f)
    · rfl
    · rfl
    · cases f with
      | docs l => exact applyDocs_eq cfg s.docs (.docs l)
      | _ => rfl)]
  cases lastSome (fDocsArg cfg) calls <;> rfl

theorem VB.fold_index {R} (cfg : Cfg) (isPhantom : R → Bool) (calls : List (VCall R)) (vb : VB R) :
    (calls.foldl (VB.step cfg isPhantom) vb).index = (lastSome vIndexArg calls).or vb.index := by
  rw [foldl_register (VB.step cfg isPhantom) VB.index vIndexArg some (by rintro s (_ | _ | _ | _) <;> rfl)]
  cases lastSome vIndexArg calls <;> rfl

theorem VB.fold_fields {R} (cfg : Cfg) (isPhantom : R → Bool) (calls : List (VCall R)) (vb : VB R) :
    (calls.foldl (VB.step cfg isPhantom) vb).fields =
      match lastSome vFieldsArg calls with
      | none => vb.fields
      | some fbs => fieldsOf cfg isPhantom fbs := by
  rw [foldl_register (VB.step cfg isPhantom) VB.fields vFieldsArg (fieldsOf cfg isPhantom) (by rintro s (_ | _ | _ | _) <;> rfl)]
  cases lastSome vFieldsArg calls <;> rfl

theorem VB.fold_docs {R} (cfg : Cfg) (isPhantom : R → Bool) (calls : List (VCall R)) (vb : VB R) :
    (calls.foldl (VB.step cfg isPhantom) vb).docs = (lastSome (vDocsArg cfg) calls).getD vb.docs := by
  rw [foldl_register (VB.step cfg isPhantom) VB.docs (vDocsArg cfg) id
    (by rintro s (_ | _ | _ | f); rfl; rfl; rfl; exact applyDocs_eq cfg s.docs f)]
  cases lastSome (vDocsArg cfg) calls <;> rfl

theorem TB.fold_path {R} (cfg : Cfg) (calls : List (TCall R)) (tb : TB R) :
    (calls.foldl (TB.step cfg) tb).path = (lastSome tPathArg calls).or tb.path := by
  rw [foldl_register (TB.step cfg) TB.path tPathArg some (by rintro s (_ | _ | _) <;> rfl)]
  cases lastSome tPathArg calls <;> rfl

theorem TB.fold_params {R} (cfg : Cfg) (calls : List (TCall R)) (tb : TB R) :
    (calls.foldl (TB.step cfg) tb).params = (lastSome tParamsArg calls).getD tb.params := by
  rw [foldl_register (TB.step cfg) TB.params tParamsArg id (by rintro s (_ | _ | _) <;> rfl)]
  cases lastSome tParamsArg calls <;> rfl

theorem TB.fold_docs {R} (cfg : Cfg) (calls : List (TCall R)) (tb : TB R) :
    (calls.foldl (TB.step cfg) tb).docs = (lastSome (tDocsArg cfg) calls).getD tb.docs := by
  rw [foldl_register (TB.step cfg) TB.docs (tDocsArg cfg) id
    (by rintro s (_ | _ | f); rfl; rfl; exact applyDocs_eq cfg s.docs f)]
  cases lastSome (tDocsArg cfg) calls <;> rfl

theorem fieldsOf_eq_mapM {R} (cfg : Cfg) (isPhantom : R → Bool) (fbs : List (List (FCall R))) :
    fieldsOf cfg isPhantom fbs = (fbs.mapM (fieldOf cfg)).map (fun fs => fs.filter (fun f => !isPhantom f.ty)) := by
  induction fbs with
  | nil => rfl
  | cons c cs ih =>
    simp only [fieldsOf, List.mapM_cons, ih]
    cases fieldOf cfg c with
    | none => rfl
    | some f =>
      cases List.mapM (fieldOf cfg) cs with
      | none => rfl
      | some fs => cases h : isPhantom f.ty <;> simp [h]

theorem variantsOf_eq_mapM {R} (cfg : Cfg) (isPhantom : R → Bool) (vs : List (Str × List (VCall R))) :
    variantsOf cfg isPhantom vs = vs.mapM (fun nc => variantOf cfg isPhantom nc.1 nc.2) := by
  induction vs with
  | nil => rfl
  | cons c cs ih =>
    simp only [variantsOf, List.mapM_cons, ih]
    cases variantOf cfg isPhantom c.1 c.2 with
    | none => rfl
    | some v => cases List.mapM (fun nc => variantOf cfg isPhantom nc.1 nc.2) cs <;> rfl

theorem mapM_some_forall {α β} {f : α → Option β} {P : β → Prop} (hf : ∀ a b, f a = some b → P b) :
    ∀ {l : List α} {bs : List β}, l.mapM f = some bs → ∀ b ∈ bs, P b
  | [], _, h => by cases h; nofun
  | a :: l, _, h => by
    simp only [List.mapM_cons, bind, Option.bind_eq_some_iff, pure, Option.some.injEq] at h
    obtain ⟨b0, ha, bs0, hl, rfl⟩ := h
    exact List.forall_mem_cons.2 ⟨hf a _ ha, mapM_some_forall hf hl⟩

end Build
end SIM
