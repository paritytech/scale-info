/-
  SIM.Lemmas.CodecSize — a size measure on registries (one unit per node, per list element and per string
  byte) and the fact that every encoder emits at least that many bytes.
-/
import SIM.Lemmas.Codec
namespace SIM
namespace Codec

def sizeStr (s : Str) : Nat := 1 + s.length
def sizeStrs (l : List Str) : Nat := 1 + (l.map sizeStr).sum
def sizeOptStr : Option Str → Nat | none => 1 | some s => 1 + sizeStr s
def sizeField (f : Field Nat) : Nat := sizeOptStr f.name + 1 + sizeOptStr f.typeName + sizeStrs f.docs
def sizeFields (fs : List (Field Nat)) : Nat := 1 + (fs.map sizeField).sum
def sizeVariant (v : Variant Nat) : Nat := sizeStr v.name + sizeFields v.fields + 1 + sizeStrs v.docs
def sizeTypeDef : TypeDef Nat → Nat
  | .composite fs => 1 + sizeFields fs
  | .variant vs => 2 + (vs.map sizeVariant).sum
  | .sequence _ => 2
  | .array _ _ => 3
  | .tuple ts => 2 + ts.length
  | .primitive _ => 2
  | .compact _ => 2
  | .bitSequence _ _ => 3
def sizeParam (p : TypeParam Nat) : Nat := sizeStr p.name + 1 + (match p.ty with | none => 0 | some _ => 1)
def sizeTy (t : Ty Nat) : Nat := sizeStrs t.path + 1 + (t.params.map sizeParam).sum + sizeTypeDef t.def_ + sizeStrs t.docs
def sizePType (p : PType) : Nat := 1 + sizeTy p.ty
def sizeRegistry (r : PortableRegistry) : Nat := 1 + (r.map sizePType).sum

theorem encCompact_length_pos (n : Nat) : 1 ≤ (encCompact n).length := by
  rw [encCompact_length]
  split
  · decide
  split
  · decide
  split <;> decide

theorem encU8_length (n : Nat) : (encU8 n).length = 1 := le_length 1 n
theorem encU32_length (n : Nat) : (encU32 n).length = 4 := le_length 4 n

theorem sum_map_le {α} (f g : α → Nat) : ∀ l : List α, (∀ a ∈ l, f a ≤ g a) → (l.map f).sum ≤ (l.map g).sum
  | [], _ => Nat.le_refl _
  | a :: l, h => by
    exact Nat.add_le_add (h a (List.mem_cons_self ..)) (sum_map_le f g l fun b hb => h b (List.mem_cons_of_mem _ hb))

theorem sum_map_one {α} (l : List α) : (l.map (fun _ => 1)).sum = l.length := by
  rw [List.map_const', List.sum_replicate_nat, Nat.mul_one]

theorem encVec_length_ge {α} (f : α → Bytes) (sz : α → Nat) (l : List α)
    (h : ∀ a ∈ l, sz a ≤ (f a).length) : 1 + (l.map sz).sum ≤ (encVec f l).length := by
  rw [encVec, List.length_append, List.length_flatMap]
  exact Nat.add_le_add (encCompact_length_pos _) (sum_map_le sz _ l h)

theorem sizeStr_le (s : Str) : sizeStr s ≤ (encStr s).length := by
  rw [sizeStr, encStr, List.length_append]
  exact Nat.add_le_add_right (encCompact_length_pos _) _

theorem sizeStrs_le (l : List Str) : sizeStrs l ≤ (encVec encStr l).length :=
  encVec_length_ge encStr sizeStr l (fun s _ => sizeStr_le s)

theorem sizeOptStr_le : ∀ o : Option Str, sizeOptStr o ≤ (encOpt encStr o).length
  | none => Nat.le_refl 1
  | some s => by
    rw [sizeOptStr, encOpt, List.length_cons, Nat.add_comm]
    exact Nat.succ_le_succ (sizeStr_le s)

/-! A struct is the concatenation of its members' encodings in the order of its size's summands, so its bound is
`Nat.add_le_add` of the members' bounds; `omega` where the summands are grouped differently. -/

theorem sizeField_le (f : Field Nat) : sizeField f ≤ (encField f).length := by
  simp only [sizeField, encField, List.length_append]
  exact Nat.add_le_add (Nat.add_le_add (Nat.add_le_add (sizeOptStr_le _) (encCompact_length_pos _)) (sizeOptStr_le _))
    (sizeStrs_le _)

theorem sizeFields_le (fs : List (Field Nat)) : sizeFields fs ≤ (encVec encField fs).length :=
  encVec_length_ge encField sizeField fs (fun f _ => sizeField_le f)

theorem sizeVariant_le (v : Variant Nat) : sizeVariant v ≤ (encVariant v).length := by
  simp only [sizeVariant, encVariant, List.length_append]
  exact Nat.add_le_add (Nat.add_le_add (Nat.add_le_add (sizeStr_le _) (sizeFields_le _))
    (Nat.le_of_eq (encU8_length _).symm)) (sizeStrs_le _)

theorem sizeTypeDef_le : ∀ d : TypeDef Nat, sizeTypeDef d ≤ (encTypeDef d).length
  | .composite fs => by
    have h := sizeFields_le fs
    simp only [sizeTypeDef, encTypeDef, List.length_cons]
    omega
  | .variant vs => by
    have h := encVec_length_ge encVariant sizeVariant vs (fun v _ => sizeVariant_le v)
    simp only [sizeTypeDef, encTypeDef, List.length_cons]
    omega
  | .sequence t | .compact t => Nat.succ_le_succ (encCompact_length_pos t)
  | .array n t => by
    have h1 := encU32_length n
    simp only [sizeTypeDef, encTypeDef, List.length_cons, List.length_append]
    omega
  | .tuple ts => by
    have h := encVec_length_ge encCompact (fun _ => 1) ts (fun t _ => encCompact_length_pos t)
    have hs := sum_map_one ts
    simp only [sizeTypeDef, encTypeDef, List.length_cons]
    omega
  | .primitive p => Nat.succ_le_succ (Nat.le_of_eq (encU8_length _).symm)
  | .bitSequence s o => by
    have h1 := encCompact_length_pos s
    have h2 := encCompact_length_pos o
    simp only [sizeTypeDef, encTypeDef, List.length_cons, List.length_append]
    omega

theorem sizeParam_le (p : TypeParam Nat) : sizeParam p ≤ (encParam p).length := by
  have h1 := sizeStr_le p.name
  cases p with
  | mk name ty =>
    cases ty with
    | none =>
      simp only [sizeParam, encParam, encOpt, List.length_append, List.length_cons, List.length_nil] at h1 ⊢
      omega
    | some t =>
      have h2 := encCompact_length_pos t
      simp only [sizeParam, encParam, encOpt, List.length_append, List.length_cons] at h1 ⊢
      omega

theorem sizeTy_le (t : Ty Nat) : sizeTy t ≤ (encTy t).length := by
  simp only [sizeTy, encTy, List.length_append, Nat.add_assoc (sizeStrs t.path) 1]
  exact Nat.add_le_add (Nat.add_le_add (Nat.add_le_add (sizeStrs_le _)
    (encVec_length_ge encParam sizeParam _ fun p _ => sizeParam_le p)) (sizeTypeDef_le _)) (sizeStrs_le _)

theorem sizePType_le (p : PType) : sizePType p ≤ (encPType p).length := by
  rw [sizePType, encPType, List.length_append]
  exact Nat.add_le_add (encCompact_length_pos _) (sizeTy_le _)

theorem length_le_sizeRegistry (r : PortableRegistry) : r.length ≤ sizeRegistry r := by
  have := sum_map_le (fun _ => 1) sizePType r (fun p _ => Nat.le_add_right ..)
  rw [sum_map_one] at this
  exact Nat.le_add_left_of_le this

end Codec
end SIM
