/-
  C04 (tie to the source by translation): the built-in impls the model describes are the ones /repo/src/impls.rs declares.
  The tables are re-extracted on every run (SIM.Extracted.ImplTable, translators/extract_impl_tables.py); proofs in C16impls.
-/
import SIM.Props.C16impls
namespace SIM
namespace C04
open Impls

theorem extracted_impls_ok :
    Extracted.ImplTable.primImpls = Expected.ImplTable.primImpls ∧ Extracted.ImplTable.tupleArities = Expected.ImplTable.tupleArities ∧
    Extracted.ImplTable.nonZero = Expected.ImplTable.nonZero ∧ Extracted.ImplTable.identities = Expected.ImplTable.identities :=
  ⟨rfl, rfl, rfl, rfl⟩

/-- every Rust primitive is described by the `TypeDefPrimitive` variant of the same name; `bool`, `char`, `str`: `C16.prim_impls_match` -/
theorem prim_table :
    (∀ w, (JsonM.primName (primOfUint w), JsonM.primName (primOfUint w)) ∈ Expected.ImplTable.primImpls) ∧
    (∀ w, (JsonM.primName (primOfSint w), JsonM.primName (primOfSint w)) ∈ Expected.ImplTable.primImpls) ∧
    Expected.ImplTable.primImpls.length = 13 ∧ (∀ r ∈ Expected.ImplTable.primImpls, r.1 = r.2) := by
  obtain ⟨-, -, -, hu, hs⟩ := C16.prim_impls_match
  exact ⟨hu, hs, C16.prim_impls_complete⟩

theorem tuple_arities : Expected.ImplTable.tupleArities = List.range 21 := C16.tuple_arities

theorem non_zero_rows :
    (∀ w, (nonZeroUName w, JsonM.primName (primOfUint w)) ∈ Expected.ImplTable.nonZero) ∧
    (∀ w, (nonZeroIName w, JsonM.primName (primOfSint w)) ∈ Expected.ImplTable.nonZero) := by
  obtain ⟨hu, hi, -⟩ := C16.non_zero_rows
  exact ⟨hu, hi⟩

end C04
end SIM
