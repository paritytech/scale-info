/-
  C14 (size) — a decoded registry is not bigger than the bytes it was decoded from, because every node, every list element
  and every string byte costs at least one input byte: the logical half of "memory proportional to the input".
-/
import SIM.Lemmas.CodecSize
import SIM.Props.C07
namespace SIM
namespace C14
open Codec

export Codec (sizeStr sizeStrs sizeOptStr sizeField sizeFields sizeVariant sizeTypeDef sizeParam sizeTy
  sizePType sizeRegistry)

theorem size_le_encode (r : PortableRegistry) : sizeRegistry r ≤ (Codec.encode r).length :=
  encVec_length_ge encPType sizePType r (fun p _ => sizePType_le p)

theorem decoded_size_le_input (bs : Bytes) (r : PortableRegistry) (rest : Bytes)
    (h : Codec.decode bs = some (r, rest)) : sizeRegistry r + rest.length ≤ bs.length := by
  rw [good_registry.length_eq h]
  exact Nat.add_le_add_right (size_le_encode r) _

theorem decoded_entries_le_input (bs : Bytes) (r : PortableRegistry) (rest : Bytes)
    (h : Codec.decode bs = some (r, rest)) : r.length ≤ bs.length := by
  have h1 := decoded_size_le_input bs r rest h
  have h2 := length_le_sizeRegistry r
  omega

/-- the measure counts every list element and every string byte; shown for a list of strings -/
theorem strs_bytes_le (l : List Str) : l.length + (l.map List.length).sum ≤ sizeStrs l := by
  induction l with
  | nil => exact Nat.zero_le _
  | cons s l ih =>
    simp only [Codec.sizeStrs, Codec.sizeStr, List.map_cons, List.sum_cons, List.length_cons] at ih ⊢
    omega

example : sizeRegistry C07.sample ≤ (Codec.encode C07.sample).length := size_le_encode _

example : sizeRegistry C07.sample = 83 ∧ (Codec.encode C07.sample).length = 94 := by decide +kernel

/-- the bound is tight -/
example : Codec.decode [0] = some ([], []) ∧ sizeRegistry [] + ([] : Bytes).length = ([0] : Bytes).length := by
  decide

/-- `04` one entry, `00` id, `00` path, `00` params, `05 03` primitive u8, `00` docs -/
example : Codec.decode [4, 0, 0, 0, 5, 3, 0] = some ([C07.plain 0 (.primitive .u8)], []) ∧
    sizeRegistry [C07.plain 0 (.primitive .u8)] = 7 := by
  decide +kernel

example : Codec.decode [4, 0, 0, 0, 5, 3, 0, 9, 9] = some ([C07.plain 0 (.primitive .u8)], [9, 9]) ∧
    sizeRegistry [C07.plain 0 (.primitive .u8)] + ([9, 9] : Bytes).length = 9 := by
  decide +kernel

/-- slack comes only from multi-byte integers: here a 2-byte compact string length -/
example : sizeStr (List.replicate 64 0) + 1 = (encStr (List.replicate 64 0)).length := by decide

end C14
end SIM
