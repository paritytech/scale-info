/-
  C15 — the docs feature changes documentation strings only: erasing them (`stripDocs`) commutes with everything the
  registry does (references, filling, interning, ids), so ids never depend on documentation; and the built-in impls and
  the derive, evaluated with the feature on and off, agree after erasing.
-/
import SIM.Lemmas.Docs
import SIM.Lemmas.Trav
import SIM.Props.C09
namespace SIM
namespace C15
open Spec DocsL Registry

theorem strip_refs {R} (t : Ty R) : (stripDocs t).refs = t.refs := by
  unfold Ty.refs stripDocs
  simp only [stripDef_refs]

theorem strip_fill (t : Ty Nat) (rs : List Nat) : (stripDocs t).fill rs = stripDocs (t.fill rs) := by
  unfold Ty.fill stripDocs
  simp only [stripDef_fill]

theorem strip_idem {R} (t : Ty R) : stripDocs (stripDocs t) = stripDocs t := by
  unfold stripDocs
  simp only [stripDef_idem]

theorem register_strip (env : Nat → Ty Nat) (fuel : Nat) (s : RegState) (tid : Nat) :
    Registry.registerType (fun t => stripDocs (env t)) fuel (stripState s) tid =
      (Registry.registerType env fuel s tid).map (fun r => (stripState r.1, r.2)) := by
  induction fuel generalizing s tid with
  | zero => rfl
  | succ fuel ih =>
    rw [registerType_succ, registerType_succ]
    -- the state the children are visited from, written as the erasure of a state, so that `travList_map` applies
    show (if (s.table.internOrGet tid).1 then
      (travList _ (stripState { table := (s.table.internOrGet tid).2.2, types := s.types, evals := s.evals ++ [tid] }) _).map _
      else _) = _
    split
    · rw [strip_refs, travList_map stripState ih, Option.map_map, Option.map_map]
      congr 1
      funext p
      simp only [Function.comp, strip_fill, stripState, insertSorted_strip]
    · rfl

theorem run_strip_state (env : Nat → Ty Nat) (fuel : Nat) (s : RegState) (ops : List Registry.Op) :
    Registry.run (fun t => stripDocs (env t)) fuel (stripState s) ops =
      (Registry.run env fuel s ops).map (fun r => (stripState r.1, r.2)) := by
  simp only [run_eq]
  refine travList_map stripState (fun s op => ?_) ops s
  -- an operation is a traversal of its roots; its output is computed from the ids alone
  simp only [step_eq, Option.map_map, travList_map stripState (register_strip env fuel)]
  rfl

theorem run_strip (env : Nat → Ty Nat) (fuel : Nat) (roots : List Nat) :
    (Registry.run (fun t => stripDocs (env t)) fuel Registry.empty (roots.map Registry.Op.reg)).map (fun r => (Registry.toPortable r.1, r.2)) =
      (Registry.run env fuel Registry.empty (roots.map Registry.Op.reg)).map (fun r => (stripReg (Registry.toPortable r.1), r.2)) := by
  rw [show Registry.empty = stripState Registry.empty from rfl, run_strip_state, Option.map_map]
  simp only [Function.comp_def, toPortable_strip]
  rfl

theorem impls_docs_only (t : TyExpr) : (Impls.typeInfo true t).map stripDocs = (Impls.typeInfo false t).map stripDocs := by
  induction t with
  | box_ t ih | rc t ih | arc t ih | ref_ t ih | refMut t ih => exact ih  -- these forward to their argument
  | _ => rfl

theorem derive_docs_only (d : Derive.Decl) : (Derive.typeInfo true d).map stripDocs = (Derive.typeInfo false d).map stripDocs := by
  rw [C09.derive_mirrors, C09.derive_mirrors]
  unfold deriveExpected
  split
  · simp only [Option.map_some, Option.some.injEq]
    unfold stripDocs
    cases d.body with
    | struct s => simp only [stripDef, members_strip]
    | enum vs => simp only [stripDef, variants_strip]
  · rfl

theorem derive_docs_off_eq (d : Derive.Decl) (h : d.capture = .never) : Derive.typeInfo true d = Derive.typeInfo false d := by
  rw [C09.derive_mirrors, C09.derive_mirrors]
  unfold deriveExpected
  rw [h]
  rfl

theorem strip_wf (r : PortableRegistry) (h : WF r) : WF (stripReg r) := by
  intro i hi
  have hi' : i < r.length := by rwa [stripReg, List.length_map] at hi
  simp only [stripReg, List.getElem_map, List.length_map, strip_refs]
  exact h i hi'

theorem strip_ids (r : PortableRegistry) : (stripReg r).map (·.id) = r.map (·.id) := by
  unfold stripReg
  rw [List.map_map]
  rfl

theorem run_strip_ids (env : Nat → Ty Nat) (fuel : Nat) (roots : List Nat) :
    (Registry.run (fun t => stripDocs (env t)) fuel Registry.empty (roots.map Registry.Op.reg)).map (·.2) =
      (Registry.run env fuel Registry.empty (roots.map Registry.Op.reg)).map (·.2) := by
  have h := congrArg (Option.map (fun r : PortableRegistry × List Registry.Out => r.2)) (run_strip env fuel roots)
  simpa only [Option.map_map, Function.comp_def] using h

/-- `PhantomData` carries a doc line only with the feature -/
example : Impls.typeInfo true (.phantom .tuple0) ≠ Impls.typeInfo false (.phantom .tuple0) := by decide

example :
    let d : Derive.Decl := { ident := [83], modulePath := [109], params := [], capture := .default, replace := [],
                             docs := [[32, 100]], body := .struct .unit }
    Derive.typeInfo true d ≠ Derive.typeInfo false d ∧
      (Derive.typeInfo true d).map stripDocs = (Derive.typeInfo false d).map stripDocs := by decide +kernel

end C15
end SIM
