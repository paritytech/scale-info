/-
  SIM.Lemmas.JsonPos — the positional pairing `zipKeys`, and the positional form (`posOfRegistry`) read back by
  `toRegistry`: every struct reader is given all its members, so these are the reader lemmas of `Lemmas.Json` with
  every member present.
-/
import SIM.Lemmas.Json
namespace SIM
namespace JsonM
open Codec

theorem zipKeys_eq : ∀ (spec : List Key) (l : List Json),
    zipKeys spec l = if l.length ≤ spec.length then some ((spec.take l.length).zip l) else none
  | _, [] => by simp [zipKeys]
  | [], _ :: _ => rfl
  | k :: ks, j :: js => by
    by_cases h : js.length ≤ ks.length <;>
      simp only [zipKeys, zipKeys_eq ks js, h, if_true, if_false, List.length_cons, Nat.add_le_add_iff_right,
        List.take_succ_cons, List.zip_cons_cons]

theorem deField_posField (f : Field Nat) (h : okField f) : deField (posField f) = .ok f :=
  deField_of_members rfl (.inl rfl) rfl (.inl rfl) (.inl rfl) h.2.1

theorem deVariant_posVariant (v : Variant Nat) (h : okVariant v) : deVariant (posVariant v) = .ok v :=
  deVariant_of_members rfl rfl (.inl rfl) rfl (.inl rfl) (fun f hf => deField_posField f (h.2.1.2 f hf)) h.2.2.1

theorem deTypeDef_posTypeDef (d : TypeDef Nat) (h : okTypeDef d) : deTypeDef (posTypeDef d) = .ok d := by
  cases d with
  | composite fs =>
    have hf : deArr deField (.arr (fs.map posField)) = .ok fs :=
      deArr_map deField posField fs (fun f hf => deField_posField f (h.2 f hf))
    simp [posTypeDef, deTypeDef, asStruct, zipKeys, dflt, getKey, hf]
  | variant vs =>
    have hv : deArr deVariant (.arr (vs.map posVariant)) = .ok vs :=
      deArr_map deVariant posVariant vs (fun v hv => deVariant_posVariant v (h.2 v hv))
    simp [posTypeDef, deTypeDef, asStruct, zipKeys, dflt, getKey, hv]
  | sequence t | compact t =>
    have h' : t < 4294967296 := h
    simp [posTypeDef, deTypeDef, deTypeOnly, asStruct, zipKeys, req, getKey, deU32, deU, h']
  | array n t | bitSequence n t =>
    have h1 : n < 4294967296 := h.1
    have h2 : t < 4294967296 := h.2
    simp [posTypeDef, deTypeDef, asStruct, zipKeys, req, getKey, deU32, deU, h1, h2]
  | tuple ts =>
    simp only [posTypeDef, deTypeDef,
      deArr_map deU32 Json.num ts (fun t ht => deU_num (h.2 t ht))]
  | primitive p =>
    simp only [posTypeDef, deTypeDef, dePrim, Key.text, primOfName_primName]

theorem deParam_posParam (p : TypeParam Nat) (h : okParam p) : deParam (posParam p) = .ok p := by
  obtain ⟨name, ty⟩ := p
  cases ty with
  | none => rfl
  | some t =>
    have h' : t < 4294967296 := h.2
    simp [posParam, deParam, asStruct, zipKeys, req, getKey, jStr, deStr, deOpt, deU32, deU, h']

theorem deTy_posTy (t : Ty Nat) (h : okTy t) : deTy (posTy t) = .ok t :=
  deTy_of_members rfl (.inl rfl) (.inl rfl) rfl (.inl rfl) (fun p hp => deParam_posParam p (h.2.1.2 p hp))
    (deTypeDef_posTypeDef t.def_ h.2.2.1)

theorem dePType_posPType (p : PType) (h : okPType p) : dePType (posPType p) = .ok p := by
  have h' : p.id < 4294967296 := h.1
  simp [posPType, dePType, asStruct, zipKeys, req, getKey, deU32, deU, h', deTy_posTy p.ty h.2]

theorem toRegistry_posOfRegistry (r : PortableRegistry) (h : Bounded r) :
    toRegistry (posOfRegistry r) = .ok r := by
  have hr : deArr dePType (.arr (r.map posPType)) = .ok r :=
    deArr_map dePType posPType r (fun p hp => dePType_posPType p (h.2 p hp))
  simp [posOfRegistry, toRegistry, asStruct, zipKeys, req, getKey, hr]

end JsonM
end SIM
